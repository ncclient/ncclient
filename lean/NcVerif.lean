-- Root of the `NcVerif` library: every model, spec, generated table, proof and property module.
import NcVerif.Driver.CapsD
import NcVerif.Driver.ConnectD
import NcVerif.Driver.FramingD
import NcVerif.Driver.IsoD
import NcVerif.Driver.JunosD
import NcVerif.Driver.LockD
import NcVerif.Driver.OpsD
import NcVerif.Driver.Proto
import NcVerif.Driver.RpcErrorD
import NcVerif.Driver.SessionD
import NcVerif.Driver.XmlD
import NcVerif.Driver.XmlDocD
import NcVerif.Driver.BuildersD
import NcVerif.Gen.Isolation
import NcVerif.Gen.OpTable
import NcVerif.Gen.Profiles
import NcVerif.Model.Basic
import NcVerif.Model.Builders
import NcVerif.Model.ReplyDoc
import NcVerif.Model.Caps
import NcVerif.Model.Connect
import NcVerif.Model.Framing
import NcVerif.Model.Isolation
import NcVerif.Model.JunosSax
import NcVerif.Model.Lock
import NcVerif.Model.Ops
import NcVerif.Model.RpcError
import NcVerif.Model.Session
import NcVerif.Model.Utf8
import NcVerif.Model.Xml
import NcVerif.Model.XmlDoc
import NcVerif.Model.XmlText
import NcVerif.Model.Retrieve
import NcVerif.Proofs.Basic
import NcVerif.Proofs.Builders
import NcVerif.Proofs.Caps
import NcVerif.Proofs.Chars
import NcVerif.Proofs.Connect
import NcVerif.Proofs.FramingBasic
import NcVerif.Proofs.Framing10
import NcVerif.Proofs.Framing11
import NcVerif.Proofs.JunosSax
import NcVerif.Proofs.Lock
import NcVerif.Proofs.OpGating
import NcVerif.Proofs.OpRequests
import NcVerif.Proofs.Profiles
import NcVerif.Proofs.Retrieve
import NcVerif.Proofs.RpcError
import NcVerif.Proofs.SessionA
import NcVerif.Proofs.SessionB
import NcVerif.Proofs.SessionC
import NcVerif.Proofs.SessionStep
import NcVerif.Proofs.Xml
import NcVerif.Proofs.XmlDoc
import NcVerif.Proofs.XmlText
import NcVerif.Props.C01
import NcVerif.Props.C02
import NcVerif.Props.C03
import NcVerif.Props.C04
import NcVerif.Props.C05
import NcVerif.Props.C06
import NcVerif.Props.C07
import NcVerif.Props.C08
import NcVerif.Props.C09
import NcVerif.Props.C10
import NcVerif.Props.C11
import NcVerif.Props.C12
import NcVerif.Props.C13
import NcVerif.Props.C14
import NcVerif.Props.C15
import NcVerif.Props.C16
import NcVerif.Props.C17
import NcVerif.Props.C18
import NcVerif.Spec.Framing
import NcVerif.Spec.Ops
import NcVerif.Spec.Profiles
import NcVerif.Spec.Session
