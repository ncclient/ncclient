/-
  `Session.step` as a relation with every result written out as a record update, and histories: the
  ground the session invariants (SessionA, SessionB, SessionC) stand on.
-/
import NcVerif.Proofs.Basic
import NcVerif.Model.Session
import NcVerif.Spec.Session
namespace NcVerif.Session
open NcVerif NcVerif.Framing NcVerif.SessionSpec

/-- `_dispatch_error(e)` written as one record update. -/
def errored (w : World) (e : ErrK) : World :=
  { w with helloErr := if w.hasHello then some e else w.helloErr,
           initEvent := w.hasHello || w.initEvent,
           rpcs := if w.hasReplyL then failAll w.rpcs w.id2rpc e else w.rpcs,
           id2rpc := if w.hasReplyL then [] else w.id2rpc }

theorem dispatchError_eq (w : World) (e : ErrK) : dispatchError w e = errored w e := by
  cases w
  simp only [dispatchError, errored]
  split <;> split <;> simp_all

theorem mem_errored_rpcs {w : World} {e : ErrK} {r' : Rpc} (h : r' ∈ (errored w e).rpcs) :
    ∃ r ∈ w.rpcs, r'.id = r.id ∧ r'.reply = r.reply ∧ r'.deliveries = r.deliveries := by
  dsimp only [errored] at h
  split at h
  · obtain ⟨r, hr, rfl⟩ := List.mem_map.1 h
    exact ⟨r, hr, by split <;> exact ⟨rfl, rfl, rfl⟩⟩
  · exact ⟨r', h, rfl, rfl, rfl⟩

/-- `deliver_reply` as a function on one request. -/
def deliverTo (raw : Str) (rpc : Rpc) : Rpc :=
  { rpc with reply := some raw, event := true, deliveries := rpc.deliveries + 1 }

/-- Where the worker goes with `todo` of the parser's outputs still to dispatch. -/
def nextPc (todo : List Out) : WPc := if todo.isEmpty then .top else .dispatching todo
/-- Where the worker goes with `data` of a frame still to write. -/
def writePc (data : Bytes) : WPc := if data.isEmpty then .select else .writing data

/-- The worker is in its loop or on its way to `_dispatch_error`: not before its start, not at `break`,
    not past its final errback. -/
def WPc.running : WPc → Bool
  | .top | .writing _ | .select | .read | .dispatching _ | .failing _ => true
  | _ => false

theorem WPc.ne_of_running {pc k : WPc} (h : pc.running = true) (hk : k.running = false) : pc ≠ k := by
  rintro rfl; rw [h] at hk; cases hk

theorem writePc_of_ne_nil {data : Bytes} (h : data ≠ []) : writePc data = .writing data := by
  cases data with
  | nil => exact absurd rfl h
  | cons _ _ => rfl

theorem nextPc_running (todo : List Out) : (nextPc todo).running = true := by unfold nextPc; split <;> rfl
theorem nextPc_ne_failing (todo : List Out) (e : ErrK) : nextPc todo ≠ .failing e := by unfold nextPc; split <;> nofun
theorem writePc_running (data : Bytes) : (writePc data).running = true := by unfold writePc; split <;> rfl

/-- What `step` can do: one constructor per enabled transition, its guard as hypotheses and its result as
    a record update of `w`; `idle` is a step that is not enabled.  Invariants are proved by cases on this
    relation: a field a constructor does not name is unchanged by `rfl`.
    The relation bounds `step` from above (`step_rel`), which is what invariants need, and no more: `idle`
    carries no guard, and the seven `wDeliver…` constructors (`_dispatch_message` by listener) keep of its
    guards what the invariants use; `hasNotif → goodNotif … = false` says that the NotificationHandler, if
    registered, did not queue the message.  What a step does under its guard is computed from `step`. -/
inductive Step (env : Env) (w : World) : Op → World → Prop
  | idle (op : Op) : Step env w op w
  | cNew (id : Nat) : Step env w (.cNew id)
      { w with hasReplyL := true,
               id2rpc := if id ∈ w.id2rpc then w.id2rpc else w.id2rpc ++ [id],
               rpcs := if w.rpcs.any (·.id = id) then w.rpcs else w.rpcs ++ [{ id := id, lateBorn := w.errbackDone }] }
  | cSend (data : Bytes) : w.connected = true →
      Step env w (.cSend data) { w with q := w.q ++ [⟨data, false⟩], puts := w.puts ++ [⟨data, false⟩] }
  | cTake (n : Str) (rest : List Str) : w.notifQ = n :: rest →
      Step env w .cTake { w with notifQ := rest, taken := w.taken ++ [n] }
  | cCloseBegin : Step env w .cCloseBegin { w with closing := true, socketClosed := true }
  | cCloseEnd : w.closing = true → (env.joins = false ∨ w.pc = .stopped ∨ w.pc = .notStarted) →
      Step env w .cCloseEnd { w with connected := false }
  | kAddListeners : w.conn = .idle →
      Step env w .kAddListeners { w with hasNotif := true, hasHello := true, conn := .listenersAdded }
  | kSendHello (data : Bytes) : w.conn = .listenersAdded → w.connected = true →
      Step env w (.kSendHello data)
        { w with q := w.q ++ [⟨data, true⟩], puts := w.puts ++ [⟨data, true⟩], conn := .helloQueued }
  | kSendHelloRefused (data : Bytes) : w.conn = .listenersAdded → w.connected = false →
      Step env w (.kSendHello data) { w with conn := .done false }
  | kStart : w.conn = .helloQueued → w.pc = .notStarted → Step env w .kStart { w with pc := .top, conn := .started }
  | kWaitExpire : w.conn = .started → w.initEvent = false →
      Step env w .kWaitExpire { w with connWaitExpired := true, conn := .done false }
  | kFinishErr (e : ErrK) : w.conn = .started → w.initEvent = true → w.helloErr = some e →
      Step env w .kFinish { w with hasHello := false, conn := .done false }
  | kFinishOk : w.conn = .started → w.initEvent = true → w.helloErr = none →
      Step env w .kFinish
        { w with hasHello := false, conn := .done true,
                 base11 := w.base11 || match w.serverCaps with
                   | some sc => Caps.contains (Caps.mk sc) base11Uri && Caps.contains (Caps.mk env.clientCaps) base11Uri
                   | none => false }
  | wTopSend (item : QItem) (rest : List QItem) : w.pc = .top → w.q = item :: rest →
      Step env w (.wTop true)
        { w with q := rest, frames := w.frames ++ [frame (w.base11 && !item.isHello) item.data],
                 dequeued := w.dequeued ++ [(item, w.base11)],
                 pc := .writing (frame (w.base11 && !item.isHello) item.data) }
  | wTopIdle (ready : Bool) : w.pc = .top → (ready = false ∨ w.q = []) →
      Step env w (.wTop ready) { w with pc := .select }
  | wWriteFail (data : Bytes) (n : Int) : w.pc = .writing data → n ≤ 0 →
      Step env w (.wWrite n) { w with pc := .failing .sessionClose }
  | wWrite (data : Bytes) (n : Int) : w.pc = .writing data → 0 < n →
      Step env w (.wWrite n)
        { w with wire := w.wire ++ data.take n.toNat,
                 pc := writePc (data.drop n.toNat) }
  | wWriteErr (data : Bytes) : w.pc = .writing data → Step env w .wWriteErr { w with pc := .failing .transport }
  | wSelectRead : w.pc = .select → Step env w (.wSelect true) { w with pc := .read }
  | wSelectExit : w.pc = .select → w.closing = true → Step env w (.wSelect false) { w with pc := .exiting }
  | wSelectTop : w.pc = .select → w.closing = false → Step env w (.wSelect false) { w with pc := .top }
  | wReadData (d : Bytes) : w.pc = .read → d ≠ [] →
      Step env w (.wRead (.data d))
        { w with parser := (feed w.base11 w.parser d).1, pc := nextPc (feed w.base11 w.parser d).2 }
  | wReadEndExit (r : ReadRes) : w.pc = .read → (r = .eof ∨ r = .data []) → w.closing = true →
      Step env w (.wRead r) { w with pc := .exiting }
  | wReadEndFail (r : ReadRes) : w.pc = .read → (r = .eof ∨ r = .data []) → w.closing = false →
      Step env w (.wRead r) { w with pc := .failing .sessionClose }
  | wReadErr : w.pc = .read → Step env w (.wRead .err) { w with pc := .failing .transport }
  | wDispatchNil : w.pc = .dispatching [] → Step env w .wDispatch { w with pc := .top }
  | wDispatchRaise (k : ErrKind) (rest : List Out) (e : ErrK) : w.pc = .dispatching (.raise k :: rest) →
      Step env w .wDispatch { w with pc := .failing e }
  | wDeliverInert (raw : Str) (rest : List Out) : w.pc = .dispatching (.deliver raw :: rest) →
      (w.hasNotif = true → goodNotif env raw = false) →
      Step env w .wDispatch { w with received := w.received ++ [raw], pc := nextPc rest }
  | wDeliverFail (raw : Str) (rest : List Out) (e : ErrK) : w.pc = .dispatching (.deliver raw :: rest) →
      (w.hasNotif = true → goodNotif env raw = false) →
      Step env w .wDispatch { w with received := w.received ++ [raw], pc := .failing e }
  | wDeliverRawErr (raw : Str) (rest : List Out) : w.pc = .dispatching (.deliver raw :: rest) →
      (w.hasNotif = true → goodNotif env raw = false) →
      Step env w .wDispatch
        { errored { w with received := w.received ++ [raw] } .rawDispatch with pc := nextPc rest }
  | wDeliverHello (raw : Str) (rest : List Out) (sid : Str) (caps : List Str) :
      w.pc = .dispatching (.deliver raw :: rest) → (w.hasNotif = true → goodNotif env raw = false) →
      w.hasHello = true → env.helloParse raw = some (sid, caps) →
      Step env w .wDispatch
        { w with received := w.received ++ [raw], sessionId := some sid, serverCaps := some caps,
                 initEvent := true, pc := nextPc rest }
  | wDeliverHelloBad (raw : Str) (rest : List Out) : w.pc = .dispatching (.deliver raw :: rest) →
      (w.hasNotif = true → goodNotif env raw = false) → w.hasHello = true →
      Step env w .wDispatch
        { w with received := w.received ++ [raw], helloErr := some .xml, initEvent := true, pc := nextPc rest }
  | wDeliverNotif (raw : Str) (rest : List Out) : w.pc = .dispatching (.deliver raw :: rest) →
      w.hasNotif = true → goodNotif env raw = true →
      Step env w .wDispatch
        { w with received := w.received ++ [raw], notifQ := w.notifQ ++ [raw], pc := nextPc rest }
  | wDeliverReply (raw : Str) (rest : List Out) (id : Nat) : w.pc = .dispatching (.deliver raw :: rest) →
      (w.hasNotif = true → goodNotif env raw = false) → id ∈ w.id2rpc → isReplyFor env id raw →
      Step env w .wDispatch
        { w with received := w.received ++ [raw], rpcs := updRpc w.rpcs id (deliverTo raw),
                 id2rpc := w.id2rpc.erase id, pc := nextPc rest }
  | wErrback (e : ErrK) : w.pc = .failing e →
      Step env w .wErrback { errored w e with pc := .closingSelf, errbackDone := true }
  | wCloseSelf : w.pc = .closingSelf →
      Step env w .wCloseSelf { w with closing := true, socketClosed := true, connected := false, pc := .stopped }
  | wExit : w.pc = .exiting →
      Step env w .wExit { errored w .transport with pc := .stopped, errbackDone := true }

theorem step_wDispatch_deliver (env : Env) (w : World) (raw : Str) (rest : List Out)
    (hpc : w.pc = .dispatching (.deliver raw :: rest)) :
    step env w .wDispatch =
      { (dispatchMessage env w raw).1 with
        pc := match (dispatchMessage env w raw).2 with
          | some e => .failing e
          | none => nextPc rest } := by
  simp only [step, hpc, nextPc]
  split <;> simp_all

theorem step_deliver (env : Env) (w : World) (raw : Str) (rest : List Out)
    (hpc : w.pc = .dispatching (.deliver raw :: rest)) :
    Step env w .wDispatch (step env w .wDispatch) := by
  rw [step_wDispatch_deliver env w raw rest hpc]
  unfold dispatchMessage
  cases hc : env.classify raw with
  | drop => exact .wDeliverInert raw rest hpc (by simp [goodNotif, hc])
  | fatal => exact .wDeliverFail raw rest _ hpc (by simp [goodNotif, hc])
  | rawErr => simp only [dispatchError_eq]; exact .wDeliverRawErr raw rest hpc (by simp [goodNotif, hc])
  | root r =>
    obtain ⟨t, m⟩ := r
    have hg : t ≠ .notification → w.hasNotif = true → goodNotif env raw = false := by
      intro ht _; cases t <;> simp_all [goodNotif]
    cases t with
    | hello =>
      dsimp only
      by_cases hh : w.hasHello = true
      · rw [if_pos hh]
        cases hp : env.helloParse raw with
        | some p => exact .wDeliverHello raw rest p.1 p.2 hpc (hg nofun) hh hp
        | none => exact .wDeliverHelloBad raw rest hpc (hg nofun) hh
      · rw [if_neg hh]; exact .wDeliverInert raw rest hpc (hg nofun)
    | notification =>
      dsimp only
      by_cases hn : w.hasNotif = true
      · by_cases hok : env.notifOk raw = true
        · rw [if_pos hn, if_pos hok]; exact .wDeliverNotif raw rest hpc hn (by simp [goodNotif, hc, hok])
        · rw [if_pos hn, if_neg hok]; exact .wDeliverFail raw rest _ hpc (by simp [goodNotif, hc, hok])
      · rw [if_neg hn]; exact .wDeliverInert raw rest hpc (fun h => absurd h hn)
    | _ =>
      dsimp only
      split
      · rename_i hacc
        cases m with
        | none => exact .wDeliverFail raw rest _ hpc (hg nofun)
        | some id =>
          dsimp only
          by_cases hid : id ∈ w.id2rpc
          · rw [if_pos hid]
            exact .wDeliverReply raw rest id hpc (hg nofun) hid ⟨_, hc, (Bool.and_eq_true _ _ ▸ hacc).2⟩
          · rw [if_neg hid]; exact .wDeliverFail raw rest _ hpc (hg nofun)
      · exact .wDeliverInert raw rest hpc (hg nofun)

theorem step_rel (env : Env) (w : World) (op : Op) : Step env w op (step env w op) := by
  cases op with
  | cNew id => exact .cNew id
  | cCloseBegin => exact .cCloseBegin
  | cSend data => simp only [step]; split <;> first | exact .idle _ | exact .cSend _ ‹_›
  | cTake => simp only [step]; split <;> first | exact .idle _ | exact .cTake _ _ ‹_›
  | cCloseEnd => simp only [step]; split <;> first | exact .idle _ | (constructor <;> simp_all [or_assoc])
  | kAddListeners => simp only [step]; split <;> first | exact .idle _ | exact .kAddListeners ‹_›
  | kSendHello data =>
    simp only [step]
    split
    · split
      · exact .kSendHello _ ‹_› ‹_›
      · exact .kSendHelloRefused _ ‹_› (Bool.eq_false_iff.2 ‹_›)
    · exact .idle _
  | kStart => simp only [step]; split <;> first | exact .idle _ | (constructor <;> simp_all)
  | kWaitExpire => simp only [step]; split <;> first | exact .idle _ | (constructor <;> simp_all)
  | kFinish =>
    simp only [step]
    split
    · have : w.conn = .started ∧ w.initEvent = true := by simp_all
      split
      · exact .kFinishErr _ this.1 this.2 ‹_›
      · exact .kFinishOk this.1 this.2 ‹_›
    · exact .idle _
  | wTop ready =>
    simp only [step]
    split
    · split
      · split
        · subst ‹ready = true›; exact .wTopSend _ _ ‹_› ‹_›
        · exact .wTopIdle _ ‹_› (.inl (Bool.eq_false_iff.2 ‹_›))
      · exact .wTopIdle _ ‹_› (.inr ‹_›)
    · exact .idle _
  | wWrite n =>
    simp only [step]
    split
    · split
      · exact .wWriteFail _ _ ‹_› ‹_›
      · exact .wWrite _ _ ‹_› (Int.not_le.1 ‹_›)
    · exact .idle _
  | wWriteErr => simp only [step]; split <;> first | exact .idle _ | exact .wWriteErr _ ‹_›
  | wSelect ev =>
    simp only [step]
    split
    · split
      · subst ‹ev = true›; exact .wSelectRead ‹_›
      · have : ev = false := Bool.eq_false_iff.2 ‹_›
        subst this
        split
        · exact .wSelectExit ‹_› ‹_›
        · exact .wSelectTop ‹_› (Bool.eq_false_iff.2 ‹_›)
    · exact .idle _
  | wRead r =>
    simp only [step]
    split
    · have hc : w.closing = false ↔ ¬ w.closing = true := Bool.eq_false_iff
      split
      · split
        · have hr : ReadRes.data ‹_› = .eof ∨ ReadRes.data ‹_› = .data [] := .inr (by simp_all)
          split
          · exact .wReadEndExit _ ‹_› hr ‹_›
          · exact .wReadEndFail _ ‹_› hr (hc.2 ‹_›)
        · exact .wReadData _ ‹_› (by simp_all)
      · split
        · exact .wReadEndExit _ ‹_› (.inl rfl) ‹_›
        · exact .wReadEndFail _ ‹_› (.inl rfl) (hc.2 ‹_›)
      · exact .wReadErr ‹_›
    · exact .idle _
  | wDispatch =>
    cases hpc : w.pc with
    | dispatching todo =>
      match todo with
      | [] => simp only [step, hpc]; exact .wDispatchNil hpc
      | .raise k :: rest => cases k <;> (simp only [step, hpc]; exact .wDispatchRaise _ _ _ hpc)
      | .deliver raw :: rest =>
        exact step_deliver env w raw rest hpc
    | _ => simp only [step, hpc]; exact .idle _
  | wErrback => simp only [step, dispatchError_eq]; split <;> first | exact .idle _ | exact .wErrback _ ‹_›
  | wCloseSelf => simp only [step]; split <;> first | exact .idle _ | exact .wCloseSelf ‹_›
  | wExit => simp only [step, dispatchError_eq]; split <;> first | exact .idle _ | exact .wExit ‹_›

end NcVerif.Session

namespace NcVerif.SessionB
open NcVerif NcVerif.Session NcVerif.SessionSpec

/-- The fields `_dispatch_message` (and `_dispatch_error`) never touch: `dispatchMessage_core`. -/
structure SameCore (w w' : World) : Prop where
  base11 : w'.base11 = w.base11
  connected : w'.connected = w.connected
  closing : w'.closing = w.closing
  socketClosed : w'.socketClosed = w.socketClosed
  pc : w'.pc = w.pc
  q : w'.q = w.q
  hasNotif : w'.hasNotif = w.hasNotif
  hasHello : w'.hasHello = w.hasHello
  hasReplyL : w'.hasReplyL = w.hasReplyL
  wire : w'.wire = w.wire
  frames : w'.frames = w.frames
  puts : w'.puts = w.puts
  dequeued : w'.dequeued = w.dequeued
  errbackDone : w'.errbackDone = w.errbackDone
  parser : w'.parser = w.parser
  taken : w'.taken = w.taken
  conn : w'.conn = w.conn
  connWaitExpired : w'.connWaitExpired = w.connWaitExpired

theorem SameCore.refl (w : World) : SameCore w w := by constructor <;> rfl

end NcVerif.SessionB

namespace NcVerif.Session
open NcVerif NcVerif.SessionSpec NcVerif.SessionB

theorem dispatchMessage_core (env : Env) (w : World) (raw : Str) :
    SameCore w (dispatchMessage env w raw).1 ∧ (dispatchMessage env w raw).1.received = w.received ++ [raw] := by
  unfold dispatchMessage
  dsimp only
  repeat' split
  all_goals first | exact ⟨by constructor <;> rfl, rfl⟩ | (rw [dispatchError_eq]; exact ⟨by constructor <;> rfl, rfl⟩)

theorem run_snoc (env : Env) (w : World) (a : List Op) (op : Op) :
    run env w (a ++ [op]) = step env (run env w a) op := by simp [run, List.foldl_append]

theorem runClosed_cons (env : Env) (w : World) (c : Bool) (cs : List Bool) :
    runClosed env w (c :: cs) = runClosed env (step env w (workerOpClosed w c)) cs := rfl

theorem run_inv {P : World → Prop} {env : Env} (hstep : ∀ {w op w'}, Step env w op w' → P w → P w')
    (ops : List Op) {w : World} (h : P w) : P (run env w ops) :=
  List.foldlRecOn ops (step env) h fun w hw op _ => hstep (step_rel env w op) hw

theorem runClosed_inv {P : World → Prop} {env : Env} (hstep : ∀ {w op w'}, Step env w op w' → P w → P w')
    (cs : List Bool) {w : World} (h : P w) : P (runClosed env w cs) :=
  List.foldlRecOn cs _ h fun w hw _ _ => hstep (step_rel env w _) hw

end NcVerif.Session
