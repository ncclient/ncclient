/- Both escapers of Model/XmlText look a character up in a table of references (`refs`).  `Writes sp c e`: `e` is what
   such an escaper writes for `c`, its reference or, if `c` is not in `sp`, `c` itself.  That, and what is true of every
   entry of the table (`refs_spec`), is all the readers and the no-markup facts need to know of an escaper. -/
import NcVerif.Model.XmlText
namespace NcVerif.XmlTextP
open NcVerif NcVerif.XmlText

theorem escapeText_nil : escapeText [] = [] := rfl
theorem escapeAttr_nil : escapeAttr [] = [] := rfl

theorem escapeText_cons (c : Char) (s : Str) :
    escapeText (c :: s) = escTextChar c ++ escapeText s := by
  simp only [escapeText, List.flatMap_cons]

theorem escapeAttr_cons (c : Char) (s : Str) :
    escapeAttr (c :: s) = escAttrChar c ++ escapeAttr s := by
  simp only [escapeAttr, List.flatMap_cons]

theorem escapeText_append (a b : Str) : escapeText (a ++ b) = escapeText a ++ escapeText b := by
  simp only [escapeText, List.flatMap_append]

theorem escapeAttr_append (a b : Str) : escapeAttr (a ++ b) = escapeAttr a ++ escapeAttr b := by
  simp only [escapeAttr, List.flatMap_append]

def refs : List (Str × Char) := [(amp, '&'), (lt, '<'), (gt, '>'), (quot, '"'), (lf, '\n'), (cr, '\r'), (tab, '\t')]

theorem refs_spec {e : Str} {c : Char} (h : (e, c) ∈ refs) :
    (∀ m ∈ ['<', '"'], m ∉ e) ∧ ∃ n, e = '&' :: n ∧ ∀ r, readRef (n ++ r) = some (c, r) := by
  unfold refs amp lt gt quot lf cr tab at h
  -- the characters of each literal, without decoding it (see `decide_chars`)
  repeat rw [String.toList_ofList] at h
  simp only [List.mem_cons, List.not_mem_nil, or_false, Prod.mk.injEq] at h
  rcases h with ⟨rfl, rfl⟩ | ⟨rfl, rfl⟩ | ⟨rfl, rfl⟩ | ⟨rfl, rfl⟩ | ⟨rfl, rfl⟩ | ⟨rfl, rfl⟩ | ⟨rfl, rfl⟩ <;>
    exact ⟨by decide, _, rfl, fun _ => rfl⟩

def Writes (special : List Char) (c : Char) (e : Str) : Prop := (e, c) ∈ refs ∨ c ∉ special ∧ e = [c]

/-- An escaper as a first-match lookup in a table of references; both escapers are instances by `rfl`. -/
def escBy : List (Str × Char) → Char → Str
  | [], c => [c]
  | (e, d) :: t, c => if c = d then e else escBy t c

theorem escBy_writes (tbl : List (Str × Char)) (h : ∀ p ∈ tbl, p ∈ refs) (c : Char) :
    Writes (tbl.map (·.2)) c (escBy tbl c) := by
  induction tbl with
  | nil => exact .inr ⟨List.not_mem_nil, rfl⟩
  | cons p t ih =>
    rw [escBy]
    split
    · subst c; exact .inl (h p List.mem_cons_self)
    · refine (ih fun q hq => h q (List.mem_cons_of_mem p hq)).imp_right (And.imp_left fun hc => ?_)
      rw [List.map_cons, List.mem_cons, not_or]
      exact ⟨‹_›, hc⟩

/-- The characters that `escTextChar`, `escAttrChar` do not write as themselves. -/
def textSpecial : List Char := ['&', '<', '>', '\r']
def attrSpecial : List Char := ['&', '<', '>', '"', '\n', '\r', '\t']

/- `escAttrChar` unfolds to `escBy refs`, `escTextChar` to `escBy` of the entries for `textSpecial`. -/
theorem escTextChar_writes (c : Char) : Writes textSpecial c (escTextChar c) :=
  escBy_writes (refs.filter (·.2 ∈ textSpecial)) (fun _ h => (List.mem_filter.1 h).1) c

theorem escAttrChar_writes (c : Char) : Writes attrSpecial c (escAttrChar c) :=
  escBy_writes refs (fun _ h => h) c

theorem Writes.length_pos {sp : List Char} {c : Char} {e : Str} (h : Writes sp c e) : 1 ≤ e.length := by
  rcases h with he | ⟨_, rfl⟩
  · obtain ⟨_, n, rfl, _⟩ := refs_spec he
    exact Nat.le_add_left 1 _
  · exact Nat.le_refl 1

theorem readText_writes {c : Char} {e : Str} (h : Writes textSpecial c e) (r : Str) (fuel : Nat) :
    readText (fuel + 1) (e ++ r) = (readText fuel r).map (c :: ·) := by
  rcases h with he | ⟨hc, rfl⟩
  · obtain ⟨_, n, rfl, hn⟩ := refs_spec he
    simp only [List.cons_append, readText, hn, Char.reduceEq, if_false, if_true]
  · simp only [textSpecial, List.mem_cons, List.not_mem_nil, or_false, not_or] at hc
    simp only [List.singleton_append, readText, hc, if_false]

theorem readAttr_writes {c : Char} {e : Str} (h : Writes attrSpecial c e) (r : Str) (fuel : Nat) :
    readAttr (fuel + 1) (e ++ r) = (readAttr fuel r).map (c :: ·) := by
  rcases h with he | ⟨hc, rfl⟩
  · obtain ⟨_, n, rfl, hn⟩ := refs_spec he
    simp only [List.cons_append, readAttr, hn, Char.reduceEq, decide_false, Bool.or_self, Bool.false_eq_true, if_false, if_true]
  · simp only [attrSpecial, List.mem_cons, List.not_mem_nil, or_false, not_or] at hc
    simp only [List.singleton_append, readAttr, hc, decide_false, Bool.or_self, Bool.false_eq_true, if_false]

theorem readText_escapeText (s : Str) :
    ∀ fuel, fuel ≥ (escapeText s).length + 1 → readText fuel (escapeText s) = some s := by
  induction s with
  | nil =>
    intro fuel h
    match fuel, h with
    | _ + 1, _ => rfl
  | cons c s ih =>
    intro fuel h
    rw [escapeText_cons, List.length_append] at h
    have hpos := (escTextChar_writes c).length_pos
    match fuel, h with
    | fuel + 1, h =>
      rw [escapeText_cons, readText_writes (escTextChar_writes c), ih fuel (by omega)]
      rfl

theorem readAttr_escapeAttr (s : Str) :
    ∀ fuel, fuel ≥ (escapeAttr s).length + 1 → readAttr fuel (escapeAttr s) = some s := by
  induction s with
  | nil =>
    intro fuel h
    match fuel, h with
    | _ + 1, _ => rfl
  | cons c s ih =>
    intro fuel h
    rw [escapeAttr_cons, List.length_append] at h
    have hpos := (escAttrChar_writes c).length_pos
    match fuel, h with
    | fuel + 1, h =>
      rw [escapeAttr_cons, readAttr_writes (escAttrChar_writes c), ih fuel (by omega)]
      rfl

theorem parseText_escapeText (s : Str) : parseText (escapeText s) = some s :=
  readText_escapeText s _ (Nat.le_refl _)

theorem parseAttr_escapeAttr (s : Str) : parseAttr (escapeAttr s) = some s :=
  readAttr_escapeAttr s _ (Nat.le_refl _)

theorem not_mem_flatMap {esc : Char → Str} {sp : List Char} (hw : ∀ c, Writes sp c (esc c)) {m : Char}
    (hm : m ∈ ['<', '"']) (hsp : m ∈ sp) (s : Str) : m ∉ s.flatMap esc := by
  rw [List.mem_flatMap]
  rintro ⟨c, _, hc⟩
  rcases hw c with he | ⟨hn, he⟩
  · exact (refs_spec he).1 m hm hc
  · rw [he, List.mem_singleton] at hc
    exact hn (hc ▸ hsp)

theorem lt_not_mem_escapeText (s : Str) : '<' ∉ escapeText s :=
  not_mem_flatMap escTextChar_writes List.mem_cons_self (by decide) s

theorem lt_not_mem_escapeAttr (s : Str) : '<' ∉ escapeAttr s :=
  not_mem_flatMap escAttrChar_writes List.mem_cons_self (by decide) s

theorem quot_not_mem_escapeAttr (s : Str) : '"' ∉ escapeAttr s :=
  not_mem_flatMap escAttrChar_writes (by decide) (by decide) s

end NcVerif.XmlTextP
