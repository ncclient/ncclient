/-
  Proofs about the 1.0 half of Model/Framing: the scan look-back (`hasSub_lookback`), first
  occurrences (`findSub`) against `Split10`, and the invariant `Good` that `parse10` keeps between
  feeds: the buffer is the undelimited tail of the stream, up to blanks dropped after a delimiter.
-/
import NcVerif.Proofs.FramingBasic
namespace NcVerif.Framing10
open NcVerif NcVerif.Framing NcVerif.FramingSpec

section Sub
variable {α : Type} [BEq α] [LawfulBEq α]

/-- Look-back soundness: a new occurrence after appending must end beyond the old buffer. -/
theorem hasSub_lookback (d b x : List α) (hb : hasSub d b = false) :
    hasSub d ((b ++ x).drop (b.length - d.length)) = hasSub d (b ++ x) := by
  rw [Bool.eq_iff_iff, hasSub_iff_infix, hasSub_iff_infix]
  refine ⟨fun h => h.trans (List.drop_suffix _ _).isInfix, fun h => ?_⟩
  rw [List.drop_append_of_le_length (Nat.sub_le _ _)]
  rcases List.infix_append_iff.mp h with h | h | ⟨l₁, l₂, rfl, h₁, h₂⟩
  · rw [← hasSub_iff_infix, hb] at h; cases h
  · exact List.infix_append_of_infix_right h
  · -- the occurrence straddles the border: its part `l₁` in `b` is among the last `d.length` elements
    have h₃ : l₁ <:+ b.drop (b.length - (l₁ ++ l₂).length) :=
      List.suffix_of_suffix_length_le h₁ (List.drop_suffix _ _) (by have := h₁.length_le; simp; omega)
    obtain ⟨a, ha⟩ := h₃
    obtain ⟨c, hc⟩ := h₂
    exact ⟨a, c, by rw [← ha, ← hc]; simp⟩

end Sub

def AllBlank (ws : Bytes) : Prop := ∀ b ∈ ws, isBlankByte b = true

theorem allBlank_nil : AllBlank [] := by intro b hb; cases hb

/-- `0x5d` is `]`, the first octet of `delim10`. -/
theorem blank_facts {w : UInt8} (h : isBlankByte w = true) :
    w ≠ 0x5d ∧ w < 0x80 ∧ isPyWs (Char.ofNat w.toNat) = true := by
  have : w = 0x20 ∨ w = 0x09 ∨ w = 0x0a ∨ w = 0x0d ∨ w = 0x0b ∨ w = 0x0c := by
    simpa [isBlankByte, or_assoc] using h
  rcases this with rfl | rfl | rfl | rfl | rfl | rfl <;> decide

theorem delim_not_prefix_blank {w : UInt8} (h : isBlankByte w = true) (s : Bytes) :
    delim10.isPrefixOf (w :: s) = false := by
  simp [delim10, List.isPrefixOf, (blank_facts h).1.symm]

theorem findSub_blank_append (ws b : Bytes) (hws : AllBlank ws) :
    findSub delim10 (ws ++ b) = (findSub delim10 b).map (· + ws.length) := by
  induction ws with
  | nil => simp
  | cons w ws ih =>
    have hw : isBlankByte w = true := hws w (by simp)
    have hws' : AllBlank ws := fun b hb => hws b (by simp [hb])
    simp only [List.cons_append, findSub, delim_not_prefix_blank hw, ih hws']
    cases findSub delim10 b <;> simp; omega

theorem findSub_blank (ws : Bytes) (hws : AllBlank ws) : findSub delim10 ws = none := by
  have := findSub_blank_append ws [] hws
  simpa [findSub, delim10] using this

theorem allBlank_of_strip {r : Bytes} (h : ¬ (stripBy isBlankByte r).length > 0) : AllBlank r := by
  have h0 : (List.dropWhile isBlankByte r).reverse.dropWhile isBlankByte = [] := by
    simpa [stripBy, rstripBy, lstripBy] using h
  have h1 : ∀ x ∈ r.dropWhile isBlankByte, isBlankByte x = true := by
    simpa [h0] using List.any_dropWhile (p := isBlankByte) (l := (r.dropWhile isBlankByte).reverse)
  -- so `dropWhile` left nothing: what it leaves starts with a non-blank
  have h2 := List.any_dropWhile (p := isBlankByte) (l := r)
  rw [List.any_eq_false.mpr fun x hx => by simp [h1 x hx]] at h2
  simpa [AllBlank] using h2.symm

theorem frameable_findSub {p : Bytes} (h : Frameable10 p) (rest : Bytes) :
    findSub delim10 (p ++ delim10 ++ rest) = some p.length :=
  (findSub_append_rest_iff delim10 p rest).mpr h

theorem split10_of_none {s : Bytes} {ps : List Bytes} {t : Bytes}
    (hn : findSub delim10 s = none) (h : Split10 s ps t) : ps = [] ∧ t = s := by
  cases h with
  | tail _ _ => exact ⟨rfl, rfl⟩
  | cons p rest ps t hf hr => rw [frameable_findSub hf] at hn; cases hn

theorem frameable_blank_append {ws p : Bytes} (hws : AllBlank ws) (h : Frameable10 p) :
    Frameable10 (ws ++ p) := by
  unfold Frameable10 at *
  rw [List.append_assoc, findSub_blank_append _ _ hws, h]
  simp [Nat.add_comm]

theorem split10_cons_inv {p rest : Bytes} {ps : List Bytes} {t : Bytes} (hf : Frameable10 p)
    (h : Split10 (p ++ delim10 ++ rest) ps t) : ∃ ps', ps = p :: ps' ∧ Split10 rest ps' t := by
  generalize hs : p ++ delim10 ++ rest = s at h
  cases h with
  | tail _ ht => rw [← hs, ← findSub_eq_none_iff, frameable_findSub hf] at ht; cases ht
  | cons p' rest' ps' t hf' hr =>
    -- both `p` and `p'` end at the first delimiter
    have hl : p.length = p'.length := by
      have := frameable_findSub hf' rest'
      rw [← hs, frameable_findSub hf] at this
      simpa using this
    simp only [List.append_assoc] at hs
    obtain ⟨rfl, hr'⟩ := List.append_inj hs hl
    obtain rfl := List.append_cancel_left hr'
    exact ⟨ps', rfl, hr⟩

theorem split10_total (stream : Bytes) : ∃ ps t, Split10 stream ps t := by
  cases hf : findSub delim10 stream with
  | none => exact ⟨[], stream, .tail _ (findSub_eq_none_iff.mp hf)⟩
  | some i =>
    obtain ⟨p, rest, rfl, hfr⟩ := findSub_some_split delim10 stream i hf
    obtain ⟨ps, t, h⟩ := split10_total rest
    exact ⟨p :: ps, t, .cons p rest ps t hfr h⟩
termination_by stream.length
decreasing_by subst stream; simp [delim10]; omega

theorem split10_functional (stream : Bytes) (ps ps' : List Bytes) (t t' : Bytes)
    (h : Split10 stream ps t) (h' : Split10 stream ps' t') : ps = ps' ∧ t = t' := by
  induction h generalizing ps' t' with
  | tail t ht => exact split10_of_none (findSub_eq_none_iff.mpr ht) h' |>.imp Eq.symm Eq.symm
  | cons p rest ps t hf hr ih =>
    obtain ⟨ps'', rfl, h''⟩ := split10_cons_inv hf h'
    obtain ⟨rfl, rfl⟩ := ih _ _ h''
    exact ⟨rfl, rfl⟩

theorem split10_append_inv {a c : Bytes} {ps1 ps : List Bytes} {t1 t : Bytes}
    (h1 : Split10 a ps1 t1) (h : Split10 (a ++ c) ps t) :
    ∃ ps2, ps = ps1 ++ ps2 ∧ Split10 (t1 ++ c) ps2 t := by
  induction h1 generalizing ps with
  | tail t1 _ => exact ⟨ps, rfl, h⟩
  | cons p rest ps1 t1 hf _ ih =>
    obtain ⟨ps', rfl, h'⟩ := split10_cons_inv hf (by simpa [List.append_assoc] using h)
    obtain ⟨ps2, rfl, h2⟩ := ih h'
    exact ⟨ps2, rfl, h2⟩

theorem split10_of_enc (ms : List Bytes) (trail : Bytes)
    (hf : ∀ m ∈ ms, Frameable10 m) (ht : hasSub delim10 trail = false) :
    Split10 (enc10 ms ++ trail) ms trail := by
  induction ms with
  | nil => simpa [enc10] using Split10.tail trail ht
  | cons m ms ih =>
    have := Split10.cons m (enc10 ms ++ trail) ms trail (hf m (by simp))
      (ih (fun m' hm' => hf m' (by simp [hm'])))
    simpa [enc10, List.append_assoc] using this

theorem decode_cons_lt {b0 : UInt8} (rest : Bytes) (h : b0 < 0x80) :
    Utf8.decode (b0 :: rest) = (Utf8.decode rest).map (Char.ofNat b0.toNat :: ·) := by
  -- `delta`: generating the equation lemmas of `decode` costs a hundred times this proof
  delta Utf8.decode
  exact if_pos h

theorem present10_cons_blank {w : UInt8} (p : Bytes) (h : isBlankByte w = true) :
    present10 (w :: p) = present10 p := by
  simp only [present10, decode_cons_lt p (blank_facts h).2.1]
  cases Utf8.decode p with
  | none => rfl
  | some cs => simp [pyStrip_cons_ws cs (blank_facts h).2.2]

theorem present10_blank_append (ws p : Bytes) (hws : AllBlank ws) :
    present10 (ws ++ p) = present10 p := by
  induction ws with
  | nil => rfl
  | cons w ws ih =>
    rw [List.cons_append, present10_cons_blank _ (hws w (by simp))]
    exact ih (fun b hb => hws b (by simp [hb]))

/-- State invariant between feeds, relative to the undelimited tail `t` of the stream so far. -/
structure Good (s : PState) (t : Bytes) : Prop where
  noDelim : hasSub delim10 s.buf = false
  pos : s.pos10 = s.buf.length - delim10.length
  tail : ∃ ws, AllBlank ws ∧ t = ws ++ s.buf

@[simp] theorem delim10_length : delim10.length = 6 := rfl

theorem parse10_no {fuel : Nat} {s : PState} (h : hasSub delim10 (s.buf.drop s.pos10) = false) :
    parse10 (fuel + 1) s = ({ s with pos10 := s.buf.length - delim10.length }, []) := by
  simp [parse10, h]

theorem partition_frameable {p : Bytes} (h : Frameable10 p) (rest : Bytes) :
    partition delim10 (p ++ delim10 ++ rest) = some (p, rest) := by
  have e : (p ++ delim10 ++ rest).drop (p.length + delim10.length) = rest := List.drop_left' (by simp)
  rw [partition, frameable_findSub h, Option.map_some, e, List.append_assoc, List.take_left]

theorem parse10_delim {fuel : Nat} {s : PState} {p rest : Bytes}
    (h : hasSub delim10 (s.buf.drop s.pos10) = true) (hb : s.buf = p ++ delim10 ++ rest)
    (hf : Frameable10 p) :
    parse10 (fuel + 1) s =
      match Utf8.decode p with
      | none => (s, [.raise .decode])
      | some text =>
        if (stripBy isBlankByte rest).length > 0 then
          ((parse10 fuel { s with buf := rest, pos10 := 0 }).1,
           .deliver (pyStrip text) :: (parse10 fuel { s with buf := rest, pos10 := 0 }).2)
        else ({ s with buf := [], pos10 := 0 }, [.deliver (pyStrip text)]) := by
  have hp := partition_frameable hf rest
  rw [← hb] at hp
  simp only [parse10, h, hp, if_true]
  cases Utf8.decode p <;> rfl

/-- `ws` are the blanks the parser has already dropped from its buffer (after a delimiter) but that are still
    part of the stream that `Split10` splits; `hpos` says that the scan from the look-back position sees what a
    scan of the whole buffer would. -/
theorem parse10_spec (fuel : Nat) (s : PState) (ws : Bytes) (ps : List Bytes) (t : Bytes)
    (hfuel : s.buf.length < fuel) (hws : AllBlank ws)
    (hpos : hasSub delim10 (s.buf.drop s.pos10) = hasSub delim10 s.buf)
    (h : Split10 (ws ++ s.buf) ps t) :
    (parse10 fuel s).2 = outcomes present10 ps ∧
      (hasRaise (parse10 fuel s).2 = false → Good (parse10 fuel s).1 t) := by
  induction fuel generalizing s ws ps t with
  | zero => omega
  | succ fuel ih =>
    cases hf : findSub delim10 s.buf with
    | none =>
      have hns : hasSub delim10 s.buf = false := findSub_eq_none_iff.mp hf
      have hfw : findSub delim10 (ws ++ s.buf) = none := by rw [findSub_blank_append _ _ hws, hf]; rfl
      obtain ⟨rfl, rfl⟩ := split10_of_none hfw h
      rw [parse10_no (hpos.trans hns)]
      exact ⟨rfl, fun _ => ⟨hns, rfl, ws, hws, rfl⟩⟩
    | some i =>
      have hs : hasSub delim10 s.buf = true := by rw [hasSub_eq_isSome, hf]; rfl
      obtain ⟨p, rest, hb, hfr⟩ := findSub_some_split delim10 s.buf i hf
      obtain ⟨ps', rfl, h'⟩ := split10_cons_inv (frameable_blank_append hws hfr)
        (by simpa [hb, List.append_assoc] using h)
      have hlen : rest.length < fuel := by
        have := congrArg List.length hb
        simp at this; omega
      have hpres : present10 (ws ++ p) = (Utf8.decode p).map pyStrip := present10_blank_append _ _ hws
      rw [parse10_delim (hpos.trans hs) hb hfr]
      cases hd : Utf8.decode p with
      | none =>
        rw [outcomes_cons_none _ (by rw [hpres, hd]; rfl)]
        exact ⟨rfl, fun hr => by simp at hr⟩
      | some text =>
        rw [outcomes_cons_some _ (by rw [hpres, hd]; rfl)]
        by_cases hstrip : (stripBy isBlankByte rest).length > 0
        · obtain ⟨h1, h2⟩ := ih { s with buf := rest, pos10 := 0 } [] ps' t hlen allBlank_nil (by simp)
            (by simpa using h')
          simp only [hstrip, if_true]
          exact ⟨by rw [h1], fun hr => h2 (by simpa using hr)⟩
        · -- only blanks follow the delimiter: the buffer is emptied, the blanks stay in `t`
          have hrb : AllBlank rest := allBlank_of_strip hstrip
          obtain ⟨rfl, rfl⟩ := split10_of_none (findSub_blank rest hrb) h'
          simp only [hstrip, if_false]
          exact ⟨by simp [outcomes], fun _ => ⟨by simp [hasSub, delim10], by simp, t, hrb, by simp⟩⟩

theorem good_noDelim_tail {s : PState} {t : Bytes} (g : Good s t) : findSub delim10 t = none := by
  obtain ⟨ws, hws, rfl⟩ := g.tail
  rw [findSub_blank_append _ _ hws, findSub_eq_none_iff.mpr g.noDelim]; rfl

theorem good_init : Good init [] :=
  ⟨by simp [init, hasSub, delim10], rfl, [], allBlank_nil, rfl⟩

theorem feed_spec (s : PState) (t0 seg : Bytes) (ps : List Bytes) (t : Bytes)
    (g : Good s t0) (h : Split10 (t0 ++ seg) ps t) :
    (feed false s seg).2 = outcomes present10 ps ∧
      (hasRaise (feed false s seg).2 = false → Good (feed false s seg).1 t) := by
  by_cases he : seg = []
  · subst he
    rw [List.append_nil] at h
    obtain ⟨rfl, rfl⟩ := split10_of_none (good_noDelim_tail g) h
    simp only [feed, List.isEmpty_nil, if_true]
    exact ⟨rfl, fun _ => g⟩
  · have hfe : feed false s seg =
        parse10 ((s.buf ++ seg).length + 1) { s with buf := s.buf ++ seg } := by
      simp [feed, he]
    rw [hfe]
    obtain ⟨ws, hws, rfl⟩ := g.tail
    apply parse10_spec _ _ ws ps t (Nat.lt_succ_self _) hws
    · show hasSub delim10 ((s.buf ++ seg).drop s.pos10) = hasSub delim10 (s.buf ++ seg)
      rw [g.pos]
      exact hasSub_lookback delim10 s.buf seg g.noDelim
    · simpa [List.append_assoc] using h

theorem feedAll_spec (segs : List Bytes) (s : PState) (t0 : Bytes) (ps : List Bytes) (t : Bytes)
    (g : Good s t0) (h : Split10 (t0 ++ segs.flatten) ps t) :
    (feedAll false s segs).2 = outcomes present10 ps := by
  induction segs generalizing s t0 ps with
  | nil =>
    simp only [List.flatten_nil, List.append_nil] at h
    obtain ⟨rfl, rfl⟩ := split10_of_none (good_noDelim_tail g) h
    rfl
  | cons seg segs ih =>
    obtain ⟨ps1, t1, h1⟩ := split10_total (t0 ++ seg)
    obtain ⟨ps2, rfl, h2⟩ := split10_append_inv h1 (by simpa [List.append_assoc] using h)
    obtain ⟨ho, hg⟩ := feed_spec s t0 seg ps1 t1 g h1
    rw [feedAll_cons_outs, outcomes_append, ← ho]
    exact andThen_congr fun hr => ih _ _ _ (hg hr) h2

theorem spec10 (segs : List Bytes) (ps : List Bytes) (t : Bytes)
    (h : Split10 segs.flatten ps t) :
    obs (feedAll false init segs) = outcomes present10 ps :=
  feedAll_spec segs init [] ps t good_init (by simpa using h)

theorem seg_indep10 (segs₁ segs₂ : List Bytes) (h : segs₁.flatten = segs₂.flatten) :
    obs (feedAll false init segs₁) = obs (feedAll false init segs₂) := by
  obtain ⟨ps, t, hs⟩ := split10_total segs₁.flatten
  rw [spec10 segs₁ ps t hs, spec10 segs₂ ps t (h ▸ hs)]

theorem decode_encode10 (ms : List Bytes) (segs : List Bytes) (trail : Bytes)
    (hf : ∀ m ∈ ms, Frameable10 m) (ht : hasSub delim10 trail = false)
    (h : segs.flatten = enc10 ms ++ trail) :
    obs (feedAll false init segs) = outcomes present10 ms :=
  spec10 segs ms trail (h ▸ split10_of_enc ms trail hf ht)

theorem no_early10 (ms : List Bytes) (q : Bytes) (segs : List Bytes)
    (hf : ∀ m ∈ ms, Frameable10 m) (hq : hasSub delim10 q = false)
    (h : segs.flatten = enc10 ms ++ q) :
    (delivers (obs (feedAll false init segs))).length ≤ ms.length := by
  rw [decode_encode10 ms segs q hf hq h]
  exact delivers_outcomes_length _ _

theorem sound_of_split {s : Bytes} {ps : List Bytes} {t : Bytes} (h : Split10 s ps t) :
    Sound Frameable10 (· ++ delim10) present10 s (outcomes present10 ps) := by
  induction h with
  | tail t ht => exact .nil t
  | cons p rest ps t hf hr ih =>
    cases hp : present10 p with
    | none => rw [outcomes_cons_none _ hp]; exact .raise _ _
    | some tx => rw [outcomes_cons_some _ hp]; exact .deliver hf hp ih

theorem delivered_sound10 (segs : List Bytes) :
    ∃ ps : List Bytes, (∀ p ∈ ps, Frameable10 p) ∧ enc10 ps <+: segs.flatten ∧
      ∃ texts : List Str, ps.map present10 = texts.map some ∧
        (obs (feedAll false init segs) = texts.map .deliver ∨
          ∃ k, obs (feedAll false init segs) = texts.map .deliver ++ [.raise k]) := by
  obtain ⟨ps, t, hs⟩ := split10_total segs.flatten
  rw [spec10 segs ps t hs]
  exact sound_of_split hs

end NcVerif.Framing10
