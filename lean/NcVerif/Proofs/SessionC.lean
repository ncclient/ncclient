/-
  Bridging lemmas between Model/Session (worker receive iterations) and Model/Framing; and `StoredReceived`
  (a stored reply is a message that was received).
-/
import NcVerif.Proofs.FramingBasic
import NcVerif.Proofs.SessionA
namespace NcVerif.SessionC
open NcVerif NcVerif.Session NcVerif.SessionSpec NcVerif.Framing NcVerif.FramingSpec

theorem drain_not_dispatching (env : Env) (fuel : Nat) (w : World) (h : ∀ t, w.pc ≠ .dispatching t) :
    drain env fuel w = w := by
  cases fuel with
  | zero => rfl
  | succ f => simp only [drain]

theorem drain_dispatching (env : Env) (fuel : Nat) (w : World) (t : List Out) (h : w.pc = .dispatching t) :
    drain env (fuel + 1) w = drain env fuel (step env w .wDispatch) := by
  simp only [drain, h]

/-- How the worker comes out of dispatching the outputs `outs` of a read, begun in `w`: at `pc`, every
    output having been a message whose dispatch raised nothing, handed exactly those messages, the parser in
    state `p`; or on its failure path. -/
def Received (w : World) (outs : List Out) (p : PState) (pc : WPc) (w' : World) : Prop :=
  (w'.pc = pc ∧ hasRaise outs = false ∧ w'.received = w.received ++ delivers outs ∧ w'.parser = p ∧
    w'.base11 = w.base11) ∨ ∃ e, w'.pc = .failing e

/-- From where a read leaves the worker (`nextPc outs`) back to the top of the loop. -/
theorem drain_spec (env : Env) (outs : List Out) :
    ∀ (w : World) (fuel : Nat), w.pc = nextPc outs → outs.length ≤ fuel →
      Received w outs w.parser .top (drain env fuel w) := by
  induction outs with
  | nil =>
    intro w fuel hpc _
    rw [drain_not_dispatching env fuel w (by rw [hpc]; nofun)]
    exact .inl ⟨hpc, rfl, (List.append_nil _).symm, rfl, rfl⟩
  | cons o rest ih =>
    intro w fuel hpc hlen
    obtain ⟨f, rfl⟩ : ∃ f, fuel = f + 1 := ⟨fuel - 1, by simp only [List.length_cons] at hlen; omega⟩
    rw [drain_dispatching env f w _ hpc]
    cases o with
    | raise k =>
      obtain ⟨e, he, -⟩ := SessionA.parser_error_fails_session env w k rest hpc
      rw [drain_not_dispatching env f _ (by intro t; rw [he]; nofun)]
      exact .inr ⟨e, he⟩
    | deliver raw =>
      obtain ⟨hc, hrec⟩ := dispatchMessage_core env w raw
      rw [step_wDispatch_deliver env w raw rest hpc]
      cases (dispatchMessage env w raw).2 with
      | some e =>
        rw [drain_not_dispatching env f _ (by intro t; nofun)]
        exact .inr ⟨e, rfl⟩
      | none =>
        rcases ih { (dispatchMessage env w raw).1 with pc := nextPc rest } f rfl (Nat.le_of_succ_le_succ hlen)
          with ⟨h1, h2, h3, h4, h5⟩ | h
        · refine .inl ⟨h1, hasRaise_deliver_cons raw _ ▸ h2, ?_, h4.trans hc.parser, h5.trans hc.base11⟩
          rw [h3]
          show (dispatchMessage env w raw).1.received ++ _ = _
          rw [hrec, delivers_deliver_cons, List.append_assoc]; rfl
        · exact .inr h

theorem step_wTop_false (env : Env) (w : World) (h : w.pc = .top) :
    step env w (.wTop false) = { w with pc := .select } := by
  simp only [step, h, if_true]
  cases w.q <;> simp

/-- The last step of `readSeg`: back at the top with nothing to send, the worker goes to `select`. -/
theorem Received.idle {env : Env} {w w' : World} {outs : List Out} {p : PState} (h : Received w outs p .top w') :
    Received w outs p .select (if w'.pc = .top then step env w' (.wTop false) else w') := by
  rcases h with ⟨h1, h⟩ | ⟨e, he⟩
  · rw [if_pos h1, step_wTop_false env _ h1]
    exact .inl ⟨rfl, h⟩
  · rw [if_neg (by rw [he]; nofun)]
    exact .inr ⟨e, he⟩

theorem readSeg_failing (env : Env) (w : World) (seg : Bytes) (e : ErrK) (h : w.pc = .failing e) :
    readSeg env w seg = w := by
  simp [readSeg, step, h, drain]

theorem readSegs_cons (env : Env) (w : World) (s : Bytes) (rest : List Bytes) :
    readSegs env w (s :: rest) = readSegs env (readSeg env w s) rest := List.foldl_cons ..

theorem readSegs_failing (env : Env) (segs : List Bytes) (w : World) (e : ErrK) (h : w.pc = .failing e) :
    readSegs env w segs = w :=
  List.foldlRecOn segs (readSeg env) (motive := (· = w)) rfl fun _ hw s _ => hw.symm ▸ readSeg_failing env w s e h

theorem readSeg_spec (env : Env) (w : World) (seg : Bytes) (hs : w.pc = .select) (hne : seg ≠ []) :
    Received w (feed w.base11 w.parser seg).2 (feed w.base11 w.parser seg).1 .select (readSeg env w seg) := by
  have hne' : seg.isEmpty = false := by cases seg <;> simp_all
  have h1 : step env (step env w (.wSelect true)) (.wRead (.data seg)) =
      { w with parser := (feed w.base11 w.parser seg).1, pc := nextPc (feed w.base11 w.parser seg).2 } := by
    simp [step, hs, hne', nextPc]
  unfold readSeg
  simp only [h1]
  refine Received.idle (drain_spec env _ _ _ rfl ?_)
  cases (feed w.base11 w.parser seg).2 <;> simp [nextPc]

theorem received_is_framing (env : Env) (segs : List Bytes) :
    ∀ (w : World), w.pc = .select → (∀ s ∈ segs, s ≠ []) → (readSegs env w segs).pc = .select →
      (readSegs env w segs).received = w.received ++ delivers (obs (feedAll w.base11 w.parser segs)) ∧
      hasRaise (obs (feedAll w.base11 w.parser segs)) = false := by
  induction segs with
  | nil =>
    intro w _ _ _
    simp [readSegs, feedAll, obs, delivers, hasRaise]
  | cons seg rest ih =>
    intro w hs hne hok
    rw [readSegs_cons] at hok ⊢
    rcases readSeg_spec env w seg hs (hne seg (by simp)) with ⟨h1, h2, h3, h4, h5⟩ | ⟨e, he⟩
    · obtain ⟨ih1, ih2⟩ := ih (readSeg env w seg) h1 (fun s hs' => hne s (by simp [hs'])) hok
      rw [h5, h4] at ih1 ih2
      simp only [obs] at ih1 ih2 ⊢
      rw [feedAll_cons_outs, andThen_of_not_hasRaise _ h2]
      refine ⟨?_, ?_⟩
      · rw [ih1, h3, delivers_append, List.append_assoc]
      · rw [hasRaise_append, h2, ih2]; rfl
    · rw [readSegs_failing env rest _ e he, he] at hok
      exact absurd hok (by simp)

/-- A stored reply is a message that was handed to `_dispatch_message`. -/
def StoredReceived (w : World) : Prop := ∀ r ∈ w.rpcs, ∀ raw, r.reply = some raw → raw ∈ w.received

theorem StoredReceived.step {env : Env} {w w' : World} {op : Op} (hs : Step env w op w') (h : StoredReceived w) : StoredReceived w' := by
  -- `failAll` keeps replies; a further message received keeps the earlier ones
  have hfail : ∀ e x, ∀ r' ∈ (errored w e).rpcs, ∀ raw, r'.reply = some raw → raw ∈ w.received ++ x :=
    fun e x r' hr' raw hraw =>
      let ⟨r, hr, _, hrep, _⟩ := mem_errored_rpcs hr'; List.mem_append_left _ (h r hr raw (hrep ▸ hraw))
  have more : ∀ x, ∀ r ∈ w.rpcs, ∀ raw, r.reply = some raw → raw ∈ w.received ++ x :=
    fun x r hr raw hraw => List.mem_append_left _ (h r hr raw hraw)
  cases hs with
  | cNew id =>
    intro r hr raw hraw
    rcases SessionA.mem_of_mem_ite_snoc hr with hr | rfl
    · exact h r hr raw hraw
    · cases hraw
  | wDeliverReply raw' _ id =>
    intro r' hr' raw hraw
    obtain ⟨r, hr, rfl⟩ := List.mem_map.1 hr'
    split at hraw
    · cases hraw; exact List.mem_append_right _ (List.mem_singleton_self _)
    · exact more _ r hr raw hraw
  | wDeliverRawErr => exact hfail _ _
  | wErrback | wExit => exact fun r hr raw hraw => List.append_nil w.received ▸ hfail _ [] r hr raw hraw
  | wDeliverInert | wDeliverFail | wDeliverHello | wDeliverHelloBad | wDeliverNotif => exact more _
  | _ => exact h

end NcVerif.SessionC
