/- Helper lemmas about Model/Lock: the equations of `run`. -/
import NcVerif.Model.Lock
namespace NcVerif.LockP
open NcVerif NcVerif.Lock

theorem run_skip (srv : Server) (m : Mode) (tr : List Ev) : run srv m .skip tr = (tr, none) := by
  simp only [run]

theorem run_raise (srv : Server) (m : Mode) (e : Nat) (tr : List Ev) :
    run srv m (.raise e) tr = (tr, some (.body e)) := by
  simp only [run]

theorem run_req_fst (srv : Server) (m : Mode) (n : Nat) (tr : List Ev) :
    (run srv m (.req n) tr).1 = tr ++ [.req n] := by
  simp only [run]

theorem run_seq_some {srv : Server} {m : Mode} {a : Prog} {tr tr' : List Ev} {x : Exc} (b : Prog)
    (h : run srv m a tr = (tr', some x)) : run srv m (.seq a b) tr = (tr', some x) := by
  simp only [run, h]

theorem run_seq_none {srv : Server} {m : Mode} {a : Prog} {tr tr' : List Ev} (b : Prog)
    (h : run srv m a tr = (tr', none)) : run srv m (.seq a b) tr = run srv m b tr' := by
  simp only [run, h]

/-- `with m.locked(t): body` in one equation. When the unlock is refused its error replaces whatever
    the body raised. -/
theorem run_locked (srv : Server) (m : Mode) (t : Nat) (body : Prog) (tr : List Ev) :
    run srv m (.locked t body) tr =
      if refused (srv (tr ++ [.lock t])) then (tr ++ [.lock t], some (.rpc (.lock t)))
      else
        let r := run srv m body (tr ++ [.lock t])
        if refused (srv (r.1 ++ [.unlock t])) then (r.1 ++ [.unlock t], some (.rpc (.unlock t)))
        else (r.1 ++ [.unlock t], r.2) := by
  simp only [run]

end NcVerif.LockP
