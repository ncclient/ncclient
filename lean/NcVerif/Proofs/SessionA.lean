/-
  Invariants of Model/Session behind C03, C04, C11, C14: the request table, the notification queue,
  the worker's failure and stop paths.
-/
import NcVerif.Proofs.SessionStep
namespace NcVerif.SessionA
open NcVerif NcVerif.Session NcVerif.SessionSpec NcVerif.Framing

/-- The request table as `RPCReplyListener` sees it: every RPC object ever created, the keys of `_id2rpc`,
    whether the listener is registered (`hasL`), whether the worker has run its final errback (`ebd`). -/
structure Tbl where
  rpcs : List Rpc
  ids : List Nat
  hasL : Bool
  ebd : Bool

def tbl (w : World) : Tbl := ⟨w.rpcs, w.id2rpc, w.hasReplyL, w.errbackDone⟩

/-- One object per id and one registration per id (`rpcNodup`, `idNodup`, `idHasRpc`); a request whose event is
    not set is still registered (`pend`); requests exist only with the listener (`hasL`); a stored reply carries
    the request's own message-id (`own`); after the final errback every request has its event set or was
    created afterwards (`late`). -/
structure TInv (env : Env) (t : Tbl) : Prop where
  rpcNodup : (t.rpcs.map (·.id)).Nodup
  idNodup : t.ids.Nodup
  idHasRpc : ∀ id ∈ t.ids, ∃ r ∈ t.rpcs, r.id = id
  pend : ∀ r ∈ t.rpcs, r.event = false → r.id ∈ t.ids
  hasL : t.rpcs ≠ [] → t.hasL = true
  own : ∀ r ∈ t.rpcs, ∀ raw, r.reply = some raw → isReplyFor env r.id raw
  late : t.ebd = true → ∀ r ∈ t.rpcs, r.event = true ∨ r.lateBorn = true

theorem TInv_init (env : Env) : TInv env (tbl Session.init) := by
  constructor <;> simp [tbl, Session.init]

theorem mem_addId {ids : List Nat} {id j : Nat} :
    j ∈ (if id ∈ ids then ids else ids ++ [id]) ↔ j ∈ ids ∨ j = id := by
  split <;> simp_all

theorem mem_of_mem_ite_snoc {α} {c : Prop} [Decidable c] {l : List α} {x a : α}
    (h : a ∈ (if c then l else l ++ [x])) : a ∈ l ∨ a = x := by
  split at h
  · exact .inl h
  · simpa using h

theorem nodup_addId {ids : List Nat} (id : Nat) (h : ids.Nodup) :
    (if id ∈ ids then ids else ids ++ [id]).Nodup := by
  split
  · exact h
  · exact List.nodup_append.2 ⟨h, by simp, by rintro a ha _ hb rfl; simp_all⟩

/-- `RPC.__init__`: a request object for a new id, registered. -/
theorem TInv_new {env : Env} {t : Tbl} (id : Nat) (h : TInv env t) :
    TInv env ⟨if t.rpcs.any (·.id = id) then t.rpcs else t.rpcs ++ [{ id := id, lateBorn := t.ebd }],
              if id ∈ t.ids then t.ids else t.ids ++ [id], true, t.ebd⟩ := by
  have hany : t.rpcs.any (·.id = id) = true ↔ ∃ r ∈ t.rpcs, r.id = id := by simp
  refine ⟨?_, nodup_addId id h.idNodup, fun j hj => ?_, fun r hr he => mem_addId.2 ?_, fun _ => rfl, ?_, ?_⟩
  · split
    · exact h.rpcNodup
    · rw [List.map_append]
      exact List.nodup_append.2 ⟨h.rpcNodup, by simp, by simp_all⟩
  · split
    · exact (mem_addId.1 hj).elim (h.idHasRpc j) fun e => e ▸ hany.1 ‹_›
    · refine (mem_addId.1 hj).elim (fun hj => ?_) fun e => ⟨_, List.mem_append_right _ (List.mem_singleton_self _), e.symm⟩
      obtain ⟨r, hr, e⟩ := h.idHasRpc j hj
      exact ⟨r, List.mem_append_left _ hr, e⟩
  · exact (mem_of_mem_ite_snoc hr).imp (fun hr => h.pend r hr he) (congrArg Rpc.id)
  · intro r hr raw hraw
    rcases mem_of_mem_ite_snoc hr with hr | rfl
    · exact h.own r hr raw hraw
    · cases hraw
  · exact fun hb r hr => (mem_of_mem_ite_snoc hr).elim (h.late hb r) fun e => .inr (e ▸ hb)

/-- `failAll` and `updRpc` apply a function that keeps ids to every request object: what it has to
    satisfy, request by request, for the table to stay well-formed with registrations `ids'`. -/
theorem TInv_map {env : Env} {t : Tbl} (g : Rpc → Rpc) (ids' : List Nat) (b : Bool) (h : TInv env t)
    (hid : ∀ r, (g r).id = r.id) (hnd : ids'.Nodup) (hsub : ∀ id ∈ ids', id ∈ t.ids)
    (hpend : ∀ r ∈ t.rpcs, (g r).event = false → r.id ∈ ids')
    (hown : ∀ r ∈ t.rpcs, ∀ raw, (g r).reply = some raw → isReplyFor env r.id raw)
    (hlate : b = true → ∀ r ∈ t.rpcs, (g r).event = true ∨ (g r).lateBorn = true) :
    TInv env ⟨t.rpcs.map g, ids', t.hasL, b⟩ := by
  have hmem : ∀ r' ∈ t.rpcs.map g, ∃ r ∈ t.rpcs, g r = r' := fun _ => List.mem_map.1
  refine ⟨?_, hnd, fun id hi => ?_, fun r' hr' he => ?_, fun hne => h.hasL (by simpa using hne),
    fun r' hr' raw hraw => ?_, fun hb r' hr' => ?_⟩
  · rw [List.map_map, show (fun r : Rpc => r.id) ∘ g = (·.id) from funext hid]; exact h.rpcNodup
  · obtain ⟨r, hr, e⟩ := h.idHasRpc id (hsub id hi)
    exact ⟨g r, List.mem_map_of_mem hr, (hid r).trans e⟩
  · obtain ⟨r, hr, rfl⟩ := hmem r' hr'; exact hid r ▸ hpend r hr he
  · obtain ⟨r, hr, rfl⟩ := hmem r' hr'; exact hid r ▸ hown r hr raw hraw
  · obtain ⟨r, hr, rfl⟩ := hmem r' hr'; exact hlate hb r hr

/-- `RPCReplyListener.errback`: every registered request fails, the table is cleared.  Afterwards every request has its
    event set (those not registered had it by `pend`), so `late` holds whatever the new value `b` of `errbackDone`. -/
theorem TInv_fail {env : Env} {t : Tbl} (e : ErrK) (b : Bool) (h : TInv env t) :
    TInv env ⟨if t.hasL then failAll t.rpcs t.ids e else t.rpcs, if t.hasL then [] else t.ids, t.hasL, b⟩ := by
  by_cases hL : t.hasL = true
  · rw [if_pos hL, if_pos hL]
    refine TInv_map _ [] b h (fun r => by split <;> rfl) List.nodup_nil nofun (fun r hr he => ?_)
      (fun r hr raw hraw => h.own r hr raw (by split at hraw <;> exact hraw)) (fun _ r hr => .inl ?_)
    · split at he
      · cases he
      · exact absurd (h.pend r hr he) ‹_›
    · split
      · rfl
      · exact Bool.not_eq_false _ ▸ fun he => ‹r.id ∉ t.ids› (h.pend r hr he)
  · have hnil : t.rpcs = [] := Classical.not_not.1 fun hne => hL (h.hasL hne)
    rw [if_neg hL, if_neg hL]
    exact ⟨h.rpcNodup, h.idNodup, h.idHasRpc, h.pend, fun hne => absurd hnil hne, h.own, by simp [hnil]⟩

/-- `deliver_reply` to the request registered under `id`, which is then unregistered. -/
theorem TInv_deliver {env : Env} {t : Tbl} (id : Nat) (raw : Str) (hraw : isReplyFor env id raw) (h : TInv env t) :
    TInv env ⟨updRpc t.rpcs id (deliverTo raw), t.ids.erase id, t.hasL, t.ebd⟩ := by
  refine TInv_map _ _ _ h (fun r => by split <;> rfl) (h.idNodup.erase id) (fun _ => List.mem_of_mem_erase)
    (fun r hr he => ?_) (fun r hr raw' hraw' => ?_) (fun hb r hr => ?_)
  · split at he
    · cases he
    · exact (List.mem_erase_of_ne ‹_›).2 (h.pend r hr he)
  · split at hraw'
    · cases hraw'; exact ‹r.id = id› ▸ hraw
    · exact h.own r hr raw' hraw'
  · split
    · exact .inl rfl
    · exact h.late hb r hr

theorem TInv_step {env : Env} {w w' : World} {op : Op} (hs : Step env w op w') (h : TInv env (tbl w)) :
    TInv env (tbl w') := by
  cases hs with
  | cNew id => exact TInv_new id h
  | wDeliverReply _ _ id _ _ hid hraw => exact TInv_deliver id _ hraw h
  | wDeliverRawErr | wErrback | wExit => exact TInv_fail _ _ h
  | _ => exact h

theorem TInv_run (env : Env) (ops : List Op) : TInv env (tbl (run env Session.init ops)) :=
  run_inv TInv_step ops (TInv_init env)

/-- `c id` bounds the deliveries to the request `id`, strictly while `id` is registered (one more may come). -/
def DInv (c : Nat → Nat) (t : Tbl) : Prop :=
  ∀ r ∈ t.rpcs, r.deliveries ≤ c r.id ∧ (r.id ∈ t.ids → r.deliveries < c r.id)

theorem DInv_step {env : Env} {w w' : World} {op : Op} {c c' : Nat → Nat} (hs : Step env w op w')
    (hn : w.id2rpc.Nodup) (h : DInv c (tbl w)) (hc : ∀ j, c j ≤ c' j) (hnew : ∀ id, op = .cNew id → c id < c' id) :
    DInv c' (tbl w') := by
  -- a request that was there, under registrations that were there
  have old : ∀ ids' : List Nat, (∀ j ∈ ids', j ∈ w.id2rpc) → ∀ r ∈ w.rpcs,
      r.deliveries ≤ c' r.id ∧ (r.id ∈ ids' → r.deliveries < c' r.id) :=
    fun ids' hsub r hr => ⟨Nat.le_trans (h r hr).1 (hc _), fun hm => Nat.lt_of_lt_of_le ((h r hr).2 (hsub _ hm)) (hc _)⟩
  have hfail : ∀ e, DInv c' ⟨(errored w e).rpcs, if w.hasReplyL then [] else w.id2rpc, w.hasReplyL, true⟩ := by
    intro e r' hr'
    obtain ⟨r, hr, hid, -, hd⟩ := mem_errored_rpcs hr'
    rw [hd, hid]
    exact old _ (fun j hj => by split at hj; exact nomatch hj; exact hj) r hr
  cases hs with
  | cNew id =>
    intro r hr
    rcases mem_of_mem_ite_snoc hr with hr | rfl
    · refine ⟨(old _ (fun _ h => h) r hr).1, fun hin => (mem_addId.1 hin).elim (old _ (fun _ h => h) r hr).2 fun e => ?_⟩
      exact e ▸ Nat.lt_of_le_of_lt (e ▸ (h r hr).1) (hnew id rfl)
    · exact ⟨Nat.zero_le _, fun _ => Nat.lt_of_le_of_lt (Nat.zero_le _) (hnew id rfl)⟩
  | wDeliverReply raw _ id _ _ hid _ =>
    intro r' hr'
    obtain ⟨r, hr, rfl⟩ := List.mem_map.1 hr'
    split
    · exact ⟨Nat.le_trans ((h r hr).2 (‹r.id = id› ▸ hid)) (hc _),
        fun hm => absurd (‹r.id = id› ▸ hm : id ∈ w.id2rpc.erase id) hn.not_mem_erase⟩
    · exact old _ (fun _ => List.mem_of_mem_erase) r hr
  | wDeliverRawErr | wErrback | wExit => exact hfail _
  | _ => exact old _ fun _ h => h

/-- No assumption on the ids: a request object has been handed at most as many replies as there were
    `cNew` with its id (a second `cNew` with an id registers it again). -/
theorem deliveries_le_created (env : Env) (ops : List Op) :
    DInv (fun id => (newIds ops).count id) (tbl (run env Session.init ops)) := by
  induction ops using snoc_induction with
  | nil => exact fun _ h => nomatch h
  | snoc ops op ih =>
    rw [run_snoc]
    refine DInv_step (step_rel ..) (TInv_run env ops).idNodup ih (fun j => ?_) (fun id e => ?_)
    all_goals simp only [newIds, List.filterMap_append, List.count_append]
    · exact Nat.le_add_right _ _
    · subst e; simp

theorem at_most_once (env : Env) (ops : List Op) (h : FreshIds ops) :
    ∀ r ∈ (run env Session.init ops).rpcs, r.deliveries ≤ 1 :=
  fun r hr => Nat.le_trans (deliveries_le_created env ops r hr).1 (List.nodup_iff_count.1 h _)

/-- What was taken plus what is queued are the well-formed notifications received, in order (`notif`); the
    NotificationHandler is registered before `_post_connect` leaves `idle` and before the worker starts
    (`connNotif`, `pcNotif`); a stopped worker has closed and run its final errback, `break` is taken only when
    closing, `close()` in the worker follows the errback (`stopped`, `exiting`, `closingSelf`). -/
structure WInv (env : Env) (w : World) : Prop where
  notif : w.taken ++ w.notifQ = w.received.filter (goodNotif env)
  connNotif : w.conn ≠ .idle → w.hasNotif = true
  pcNotif : w.pc ≠ .notStarted → w.hasNotif = true
  stopped : w.pc = .stopped → w.closing = true ∧ w.errbackDone = true
  exiting : w.pc = .exiting → w.closing = true
  closingSelf : w.pc = .closingSelf → w.errbackDone = true

theorem WInv_init (env : Env) : WInv env Session.init := by
  constructor <;> simp [Session.init]

/-- While the worker is running the last three clauses are void. -/
theorem WInv.of_running {env : Env} {w : World} (hn : w.taken ++ w.notifQ = w.received.filter (goodNotif env))
    (hc : w.conn ≠ .idle → w.hasNotif = true) (hr : w.pc.running = true) (hN : w.hasNotif = true) : WInv env w :=
  ⟨hn, hc, fun _ => hN, fun h => absurd h (WPc.ne_of_running hr rfl), fun h => absurd h (WPc.ne_of_running hr rfl),
    fun h => absurd h (WPc.ne_of_running hr rfl)⟩

theorem WInv_step {env : Env} {w w' : World} {op : Op} (hs : Step env w op w') (h : WInv env w) : WInv env w' := by
  have hN : ∀ {pc}, w.pc = pc → pc ≠ .notStarted → w.hasNotif = true := fun e ne => h.pcNotif (e ▸ ne)
  have hC : ∀ {c}, w.conn = c → c ≠ .idle → w.hasNotif = true := fun e ne => h.connNotif (e ▸ ne)
  have skip : ∀ raw, goodNotif env raw = false →
      w.taken ++ w.notifQ = (w.received ++ [raw]).filter (goodNotif env) := by
    intro raw hg; simp [List.filter_append, h.notif, hg]
  cases hs with
  | cTake n rest hq => exact { h with notif := by simp [← h.notif, hq] }
  | cCloseBegin => exact { h with stopped := fun hp => ⟨rfl, (h.stopped hp).2⟩, exiting := fun _ => rfl }
  | kAddListeners => exact { h with connNotif := fun _ => rfl, pcNotif := fun _ => rfl }
  | kStart hc => exact .of_running h.notif (fun _ => hC hc nofun) rfl (hC hc nofun)
  | kSendHello _ hc | kSendHelloRefused _ hc | kWaitExpire hc | kFinishErr _ hc | kFinishOk hc =>
    exact { h with connNotif := fun _ => hC hc nofun }
  | wSelectExit hpc hcl | wReadEndExit _ hpc _ hcl =>
    exact { h with pcNotif := fun _ => hN hpc nofun, stopped := nofun, exiting := fun _ => hcl, closingSelf := nofun }
  | wErrback e hpc =>
    exact { h with pcNotif := fun _ => hN hpc nofun, stopped := nofun, exiting := nofun, closingSelf := fun _ => rfl }
  | wCloseSelf hpc =>
    exact { h with pcNotif := fun _ => hN hpc nofun, stopped := fun _ => ⟨rfl, h.closingSelf hpc⟩, exiting := nofun,
                   closingSelf := nofun }
  | wExit hpc =>
    exact { h with pcNotif := fun _ => hN hpc nofun, stopped := fun _ => ⟨h.exiting hpc, rfl⟩, exiting := nofun,
                   closingSelf := nofun }
  | wDeliverNotif raw _ hpc hn hg =>
    exact .of_running (by simp [List.filter_append, ← h.notif, hg]) h.connNotif (nextPc_running _) hn
  | wDeliverInert raw _ hpc hg | wDeliverRawErr raw _ hpc hg | wDeliverHello raw _ _ _ hpc hg
  | wDeliverHelloBad raw _ hpc hg | wDeliverReply raw _ _ hpc hg =>
    exact .of_running (skip raw (hg (hN hpc nofun))) h.connNotif (nextPc_running _) (hN hpc nofun)
  | wDeliverFail raw _ _ hpc hg => exact .of_running (skip raw (hg (hN hpc nofun))) h.connNotif rfl (hN hpc nofun)
  | wWrite _ _ hpc => exact .of_running h.notif h.connNotif (writePc_running _) (hN hpc nofun)
  | wReadData _ hpc => exact .of_running h.notif h.connNotif (nextPc_running _) (hN hpc nofun)
  | wTopSend _ _ hpc | wTopIdle _ hpc | wWriteFail _ _ hpc | wWriteErr _ hpc | wSelectRead hpc | wSelectTop hpc
  | wReadEndFail _ hpc | wReadErr hpc | wDispatchNil hpc | wDispatchRaise _ _ _ hpc =>
    exact .of_running h.notif h.connNotif rfl (hN hpc nofun)
  | _ => exact { h with }

theorem WInv_run (env : Env) (ops : List Op) : WInv env (run env Session.init ops) :=
  run_inv WInv_step ops (WInv_init env)

structure Inv (env : Env) (w : World) : Prop where
  table : TInv env (tbl w)
  world : WInv env w

theorem Inv_init (env : Env) : Inv env Session.init := ⟨TInv_init env, WInv_init env⟩

theorem Inv.of_step {env : Env} {w w' : World} {op : Op} (hs : Step env w op w') (h : Inv env w) : Inv env w' :=
  ⟨TInv_step hs h.table, WInv_step hs h.world⟩

theorem Inv_step (env : Env) (w : World) (op : Op) (h : Inv env w) : Inv env (step env w op) :=
  h.of_step (step_rel env w op)

theorem Inv_run (env : Env) (ops : List Op) : Inv env (run env Session.init ops) :=
  ⟨TInv_run env ops, WInv_run env ops⟩

theorem own_reply (env : Env) (ops : List Op) :
    ∀ r ∈ (run env Session.init ops).rpcs, ∀ raw, r.reply = some raw → isReplyFor env r.id raw :=
  (TInv_run env ops).own

theorem table_wellformed (env : Env) (ops : List Op) :
    ((run env Session.init ops).rpcs.map (·.id)).Nodup ∧ (run env Session.init ops).id2rpc.Nodup ∧
    ∀ id ∈ (run env Session.init ops).id2rpc, ∃ r ∈ (run env Session.init ops).rpcs, r.id = id :=
  ⟨(TInv_run env ops).rpcNodup, (TInv_run env ops).idNodup, (TInv_run env ops).idHasRpc⟩

@[simp] theorem dispatchMessage_pc (env : Env) (w : World) (raw : Str) : (dispatchMessage env w raw).1.pc = w.pc :=
  (dispatchMessage_core env w raw).1.pc
@[simp] theorem dispatchMessage_hasReplyL (env : Env) (w : World) (raw : Str) : (dispatchMessage env w raw).1.hasReplyL = w.hasReplyL :=
  (dispatchMessage_core env w raw).1.hasReplyL

theorem dispatchMessage_reply (env : Env) (w : World) (raw : Str) (t : Tag) (id : Nat)
    (hc : env.classify raw = .root ⟨t, some id⟩) (ha : replyAccepts env t = true)
    (hL : w.hasReplyL = true) (hid : id ∈ w.id2rpc) :
    dispatchMessage env w raw =
      ({ w with received := w.received ++ [raw], rpcs := updRpc w.rpcs id (deliverTo raw),
                id2rpc := w.id2rpc.erase id }, none) := by
  unfold dispatchMessage
  cases t <;> simp_all [replyAccepts] <;> rfl

theorem late_reply_harmless (env : Env) (w : World) (raw : Str) (rest : List Out) (t : Tag) (id : Nat)
    (hpc : w.pc = .dispatching (.deliver raw :: rest)) (hc : env.classify raw = .root ⟨t, some id⟩)
    (ha : replyAccepts env t = true) (hL : w.hasReplyL = true) (hid : id ∈ w.id2rpc) :
    (step env w .wDispatch).connected = w.connected ∧ (step env w .wDispatch).closing = w.closing ∧
    (step env w .wDispatch).notifQ = w.notifQ ∧
    (∀ r ∈ w.rpcs, r.id ≠ id → r ∈ (step env w .wDispatch).rpcs) ∧
    (∀ e, (step env w .wDispatch).pc ≠ .failing e) ∧
    (∀ j, j ≠ id → (j ∈ (step env w .wDispatch).id2rpc ↔ j ∈ w.id2rpc)) := by
  rw [step_wDispatch_deliver env w raw rest hpc, dispatchMessage_reply env w raw t id hc ha hL hid]
  refine ⟨rfl, rfl, rfl, fun r hr hne => List.mem_map.2 ⟨r, hr, if_neg hne⟩,
    nextPc_ne_failing rest, fun j hj => List.mem_erase_of_ne hj⟩

theorem dispatchMessage_inert (env : Env) (w : World) (raw : Str) (r : Root)
    (hc : env.classify raw = .root r) (ht : inertTag env w.hasHello r.tag = true)
    (hn : r.tag = .notification → env.notifOk raw = true) :
    (dispatchMessage env w raw).1.rpcs = w.rpcs ∧ (dispatchMessage env w raw).1.id2rpc = w.id2rpc ∧
    (dispatchMessage env w raw).2 = none := by
  obtain ⟨t, m⟩ := r
  unfold dispatchMessage
  cases t <;> simp_all [inertTag, replyAccepts] <;> (repeat' split) <;> simp_all

theorem non_reply_inert (env : Env) (w : World) (raw : Str) (rest : List Out) (r : Root)
    (hpc : w.pc = .dispatching (.deliver raw :: rest)) (hc : env.classify raw = .root r)
    (ht : inertTag env w.hasHello r.tag = true) (hn : r.tag = .notification → env.notifOk raw = true) :
    (step env w .wDispatch).rpcs = w.rpcs ∧ (step env w .wDispatch).id2rpc = w.id2rpc ∧
    (step env w .wDispatch).connected = w.connected ∧ (∀ e, (step env w .wDispatch).pc ≠ .failing e) := by
  rw [step_wDispatch_deliver env w raw rest hpc]
  obtain ⟨h1, h2, h3⟩ := dispatchMessage_inert env w raw r hc ht hn
  exact ⟨h1, h2, (dispatchMessage_core env w raw).1.connected, h3 ▸ nextPc_ne_failing rest⟩

theorem notifQ_spec (env : Env) (ops : List Op) :
    (run env Session.init ops).taken ++ (run env Session.init ops).notifQ =
      (run env Session.init ops).received.filter (goodNotif env) :=
  (WInv_run env ops).notif

theorem notif_inert (env : Env) (w : World) (raw : Str) (rest : List Out) (m : Option Nat)
    (hpc : w.pc = .dispatching (.deliver raw :: rest))
    (hc : env.classify raw = .root ⟨.notification, m⟩) (hn : env.notifOk raw = true) :
    (step env w .wDispatch).rpcs = w.rpcs ∧ (step env w .wDispatch).id2rpc = w.id2rpc ∧
    (step env w .wDispatch).connected = w.connected ∧ (step env w .wDispatch).closing = w.closing ∧
    (∀ e, (step env w .wDispatch).pc ≠ .failing e) ∧
    (w.hasNotif = true → (step env w .wDispatch).notifQ = w.notifQ ++ [raw]) := by
  obtain ⟨h1, h2, h3, h4⟩ := non_reply_inert env w raw rest ⟨.notification, m⟩ hpc hc rfl (fun _ => hn)
  refine ⟨h1, h2, h3, ?_, h4, fun hN => ?_⟩ <;> rw [step_wDispatch_deliver env w raw rest hpc]
  · exact (dispatchMessage_core env w raw).1.closing
  · simp [dispatchMessage, hc, hN, hn]

theorem only_notifications_queued (env : Env) (ops : List Op) :
    ∀ n ∈ (run env Session.init ops).notifQ ++ (run env Session.init ops).taken, goodNotif env n = true := by
  intro n hn
  have hmem : n ∈ (run env Session.init ops).taken ++ (run env Session.init ops).notifQ := by
    simp only [List.mem_append] at hn ⊢; exact hn.symm
  rw [notifQ_spec] at hmem
  exact (List.mem_filter.1 hmem).2

theorem take_empty (env : Env) (w : World) (h : w.notifQ = []) : step env w .cTake = w := by
  simp [step, h]

theorem handler_before_worker (env : Env) (ops : List Op) :
    (run env Session.init ops).pc ≠ .notStarted → (run env Session.init ops).hasNotif = true :=
  (WInv_run env ops).pcNotif

theorem pending_registered (env : Env) (ops : List Op) :
    ∀ r ∈ (run env Session.init ops).rpcs, r.event = false → r.id ∈ (run env Session.init ops).id2rpc :=
  (TInv_run env ops).pend

theorem find_failAll (rpcs : List Rpc) (ids : List Nat) (e : ErrK) (id : Nat) (hid : id ∈ ids)
    (hex : ∃ r ∈ rpcs, r.id = id) :
    ∃ r, (failAll rpcs ids e).find? (·.id = id) = some r ∧ r.event = true ∧ r.error = some e := by
  induction rpcs with
  | nil => obtain ⟨r, hr, _⟩ := hex; cases hr
  | cons a l ih =>
    by_cases ha : a.id = id
    · exact ⟨{ a with error := some e, event := true }, by simp [failAll, ha, hid], rfl, rfl⟩
    · obtain ⟨r, hr, h⟩ := ih (by simpa [ha] using hex)
      refine ⟨r, ?_, h⟩
      simp only [failAll, List.map_cons] at hr ⊢
      rw [List.find?_cons_of_neg (by split <;> simpa using ha)]; exact hr

theorem loss_error_kind (env : Env) (ops : List Op) (e : ErrK) :
    (run env Session.init ops).pc = .failing e →
    ∀ id ∈ (run env Session.init ops).id2rpc,
      outcome (step env (run env Session.init ops) .wErrback) id = some (.raised e) := by
  have hT := TInv_run env ops
  generalize run env Session.init ops = w at hT
  intro hpc id hid
  obtain ⟨r0, hr0, hr0id⟩ := hT.idHasRpc id hid
  have hL : w.hasReplyL = true := hT.hasL (List.ne_nil_of_mem hr0)
  obtain ⟨r, hr, hev, herr⟩ := find_failAll w.rpcs w.id2rpc e id hid ⟨r0, hr0, hr0id⟩
  simp [step, hpc, outcome, dispatchError_eq, errored, hL, hr, hev, herr]

theorem loss_fails_pending (env : Env) (ops : List Op) :
    (run env Session.init ops).errbackDone = true →
    ∀ r ∈ (run env Session.init ops).rpcs, r.event = true ∨ r.lateBorn = true :=
  (TInv_run env ops).late

theorem error_path_closes (env : Env) (w : World) (e : ErrK) (h : w.pc = .failing e) :
    (run env w [.wErrback, .wCloseSelf]).connected = false ∧ (run env w [.wErrback, .wCloseSelf]).pc = .stopped := by
  simp [run, step, h]

theorem later_refused (env : Env) (w : World) (d : Bytes) (h : w.connected = false) :
    step env w (.cSend d) = w := by
  simp [step, h]

theorem error_wins (w : World) (r : Rpc) (e : ErrK) (hr : w.rpcs.find? (·.id = r.id) = some r)
    (he : r.error = some e) (hev : r.event = true) : outcome w r.id = some (.raised e) := by
  simp [outcome, hr, he, hev]

theorem parser_error_fails_session (env : Env) (w : World) (k : ErrKind) (rest : List Out)
    (h : w.pc = .dispatching (.raise k :: rest)) :
    ∃ e, (step env w .wDispatch).pc = .failing e ∧ (step env w .wDispatch).received = w.received ∧
         (step env w .wDispatch).rpcs = w.rpcs ∧ (step env w .wDispatch).notifQ = w.notifQ := by
  cases k
  · exact ⟨.framing, by simp [step, h]⟩
  · exact ⟨.decode, by simp [step, h]⟩

theorem bad_payload_not_delivered (env : Env) (w : World) (raw : Str) (h : env.classify raw = .drop) :
    (dispatchMessage env w raw).1.rpcs = w.rpcs ∧ (dispatchMessage env w raw).1.notifQ = w.notifQ ∧
    (dispatchMessage env w raw).1.id2rpc = w.id2rpc ∧ (dispatchMessage env w raw).2 = none := by
  simp [dispatchMessage, h]

theorem stop_paths (env : Env) (w : World) (op : Op) (h : w.pc ≠ .stopped)
    (h' : (step env w op).pc = .stopped) :
    (op = .wCloseSelf ∧ w.pc = .closingSelf) ∨ (op = .wExit ∧ w.pc = .exiting) := by
  have hs := step_rel env w op
  generalize step env w op = w' at hs h'
  have live : ∀ {pc : WPc}, pc.running = true → pc ≠ .stopped := fun h => WPc.ne_of_running h rfl
  cases hs with
  | wCloseSelf hpc => exact .inl ⟨rfl, hpc⟩
  | wExit hpc => exact .inr ⟨rfl, hpc⟩
  | wWrite => exact absurd h' (live (writePc_running _))
  | wReadData | wDeliverInert | wDeliverRawErr | wDeliverHello | wDeliverHelloBad | wDeliverNotif | wDeliverReply =>
    exact absurd h' (live (nextPc_running _))
  | _ => first | exact absurd h' h | cases h'

theorem worker_stop_invariant (env : Env) (ops : List Op) :
    (run env Session.init ops).pc = .stopped →
      (run env Session.init ops).closing = true ∧ (run env Session.init ops).errbackDone = true ∧
      (∀ r ∈ (run env Session.init ops).rpcs, r.event = true ∨ r.lateBorn = true) ∧
      (step env (run env Session.init ops) .cCloseEnd).connected = false := by
  intro hpc
  obtain ⟨hc, hb⟩ := (WInv_run env ops).stopped hpc
  exact ⟨hc, hb, (TInv_run env ops).late hb, by simp [step, hc, hpc]⟩

theorem stopped_is_final (env : Env) (w : World) (op : Op) (h : w.pc = .stopped) (hw : isWorkerOp op = true) :
    step env w op = w := by
  cases op <;> simp_all [step, isWorkerOp]

end NcVerif.SessionA
