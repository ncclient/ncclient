/- Helper lemmas about Model/JunosSax: how `feed` splits along a stream, the single steps of the
   handler on explicit states, what it does with one whole element whose tag it cannot mistake for
   another, and that it does nothing with any stream of such tags while it ignores. -/
import NcVerif.Model.JunosSax
namespace NcVerif.JunosSaxP
open NcVerif NcVerif.JunosSax

theorem escape_append (a b : Str) : escape (a ++ b) = escape a ++ escape b := by
  simp [escape]

theorem escape_nil : escape [] = [] := rfl

theorem characters_nil (h : H) : characters h [] = h := by
  unfold characters
  split <;> simp [escape_nil]

theorem characters_append (h : H) (a b : Str) :
    characters (characters h a) b = characters h (a ++ b) := by
  cases hc : h.currenttag.isSome <;> simp [characters, hc, escape_append]

theorem feed_append (lk : Lookup) (e1 e2 : List Ev) (h : H) :
    feed lk h (e1 ++ e2) = match feed lk h e1 with | .ok h' => feed lk h' e2 | r => r := by
  induction e1 generalizing h with
  | nil => rfl
  | cons e es ih =>
    cases e with
    | start t a => simp only [List.cons_append, feed]; cases startElement lk h t a <;> simp only [ih]
    | stop t | chars s => simp only [List.cons_append, feed, ih]

theorem feed_append_ok {lk : Lookup} {e1 : List Ev} {h h' : H} (h1 : feed lk h e1 = .ok h') (e2 : List Ev) :
    feed lk h (e1 ++ e2) = feed lk h' e2 := by
  rw [feed_append, h1]

theorem feed_chars (lk : Lookup) (pieces : List Str) (h : H) (k : List Ev) :
    feed lk h (pieces.map .chars ++ k) = feed lk (characters h pieces.flatten) k := by
  induction pieces generalizing h with
  | nil => rw [List.flatten_nil, characters_nil]; rfl
  | cons p ps ih => simp only [List.map_cons, List.cons_append, feed, ih, List.flatten_cons, characters_append]

theorem feed_pieces_irrel (lk : Lookup) (h : H) (pre post : List Ev) (p q : List Str)
    (hp : p.flatten = q.flatten) :
    feed lk h (pre ++ (p.map .chars ++ post)) = feed lk h (pre ++ (q.map .chars ++ post)) := by
  rw [feed_append, feed_append]
  cases feed lk h pre <;> simp only [feed_chars, hp]

theorem feed_reply_unfiltered {e : Str} (he : e ∈ rpcReplyTags) (h : H) (attrs : List (Str × Str))
    (rest : List Ev) :
    feed .noFilter h (.start e attrs :: rest) = .noFilter ∧
    feed .unknown h (.start e attrs :: rest) = .unknownId := by
  simp only [feed, startElement, he, ↓reduceIte, and_self]

theorem ok_ite {c : Prop} [Decidable c] {x y : Res} (hx : ∃ h', x = .ok h') (hy : ∃ h', y = .ok h') :
    ∃ h', (if c then x else y) = .ok h' := by
  split <;> assumption

theorem startElement_filter_ok (f : FT) (h : H) (t : Str) (a : List (Str × Str)) :
    ∃ h', startElement (.filter f) h t a = .ok h' := by
  -- the state `pre` exists, and from any state every path through the rest ends in `.ok`; the
  -- discriminants are taken apart by hand because `split` on the whole body is seven times as dear
  obtain ⟨h0, hp⟩ : ∃ h0 : H, (if t ∈ rpcReplyTags then some { h with root := some f, stack := [f], wrapped := false }
      else some h) = some h0 := by split <;> exact ⟨_, rfl⟩
  simp only [startElement, hp]
  refine ok_ite ⟨_, rfl⟩ ?_
  rcases h0.stack with _ | ⟨cur, _⟩
  · exact ⟨_, rfl⟩
  rcases h0.root with _ | root
  · exact ⟨_, rfl⟩
  refine ok_ite (ok_ite ⟨_, rfl⟩ ⟨_, rfl⟩) ?_
  rcases (if (curIsRoot h0 && decide (cur.tag = t)) = true then some root else cur.find t) with _ | n
  · exact ok_ite ⟨_, rfl⟩ ⟨_, rfl⟩
  · exact ⟨_, rfl⟩

theorem feed_filter_ok (f : FT) (evs : List Ev) (h : H) : ∃ h', feed (.filter f) h evs = .ok h' := by
  induction evs generalizing h with
  | nil => exact ⟨h, rfl⟩
  | cons e es ih =>
    cases e with
    | start t a =>
      obtain ⟨h1, e1⟩ := startElement_filter_ok f h t a
      simp only [feed, e1]; exact ih h1
    | stop t => exact ih _
    | chars s => exact ih _

theorem find_tag {g n : FT} {tag : Str} (h : g.find tag = some n) : n.tag = tag := by
  simpa using List.find?_some h

-- States are written out: ⟨root, stack, wrapped, ignoretag, defaulttags, currenttag, validate, out, failed⟩.
variable {lk : Lookup} {r f g n : FT} {ro : Option FT} {st rest : List FT} {w v fl : Bool}
  {dts : List Str} {ig ct : Option Str} {out : Str} {t i : Str} {a : List (Str × Str)}
  {body : List Ev}

theorem start_rpcreply (hm : t ∈ rpcReplyTags) (hne : f.tag ≠ t) (hnf : f.find t = none) :
    startElement (.filter f) {} t a = .ok ⟨some f, [f], false, none, [t], none, true, openTag t a, false⟩ := by
  simp [startElement, hm, hne, hnf, curIsRoot]

theorem start_top (hn : f.tag ∉ rpcReplyTags) :
    startElement lk ⟨some f, [f], false, none, dts, ct, true, out, fl⟩ f.tag a =
      .ok ⟨some f, [f], false, none, dts ++ [f.tag], some f.tag, false, out ++ openTag f.tag a, fl⟩ := by
  simp [startElement, hn, curIsRoot]

theorem start_ignoring (ht : t ∉ rpcReplyTags) :
    startElement lk ⟨ro, st, w, some i, dts, ct, v, out, fl⟩ t a = .ok ⟨ro, st, w, some i, dts, ct, v, out, fl⟩ := by
  simp [startElement, ht]

theorem start_child (ht : t ∉ rpcReplyTags) (hg : g.tag ≠ t) :
    startElement lk ⟨some r, g :: rest, w, none, dts, ct, false, out, fl⟩ t a =
      match g.find t with
      | some n => .ok ⟨some r, n :: g :: rest, w, none, dts, some t, false, out ++ openTag t a, fl⟩
      | none => .ok ⟨some r, g :: rest, w, some t, dts, none, false, out, fl⟩ := by
  cases hf : g.find t <;> simp [startElement, ht, hg, hf]

theorem end_kept (hd : t ∉ dts) (hn : n.tag = t) :
    endElement ⟨ro, n :: rest, w, none, dts, ct, v, out, fl⟩ t =
      ⟨ro, rest, w, none, dts, none, v, out ++ closeTag t, fl⟩ := by
  simp [endElement, hd, hn]

theorem end_default (hd : t ∈ dts) :
    endElement ⟨ro, st, w, none, dts, ct, v, out, fl⟩ t = ⟨ro, st, w, none, dts, none, v, out ++ closeTag t, fl⟩ := by
  simp [endElement, hd]

theorem end_ignoring (hd : t ∉ dts) (hg : g.tag ≠ t) :
    endElement ⟨ro, g :: rest, w, some i, dts, ct, v, out, fl⟩ t =
      ⟨ro, g :: rest, w, if i = t then none else some i, dts, none, v, out, fl⟩ := by
  by_cases hi : i = t <;> simp [endElement, hi, hd, hg]

theorem feed_chars_some (p : List Str) :
    feed lk ⟨ro, st, w, ig, dts, some t, v, out, fl⟩ (p.map .chars) =
      .ok ⟨ro, st, w, ig, dts, some t, v, out ++ escape p.flatten, fl⟩ := by
  rw [← List.append_nil (p.map _), feed_chars]; rfl

variable {above : List Str}

/-- The handler tells elements apart by name only. While it copies the children of an element with
    filter node `g` it compares an incoming tag with `g`'s tag, with the default tags and with
    rpc-reply. `Watched above g dts`: all of these are among `above` (the tags of the open elements)
    or are rpc-reply; so an element with a fresh tag is handled as it should be. -/
def Watched (above : List Str) (g : FT) (dts : List Str) : Prop :=
  g.tag ∈ above ∧ ∀ d ∈ dts, d ∈ above ∨ d ∈ rpcReplyTags

theorem Watched.ne (hw : Watched above g dts) (ht : t ∉ above ∧ t ∉ rpcReplyTags) : g.tag ≠ t ∧ t ∉ dts :=
  ⟨fun e => ht.1 (e ▸ hw.1), fun hm => (hw.2 t hm).elim ht.1 ht.2⟩

theorem Watched.tail (hw : Watched above g dts) : Watched (t :: above) g dts :=
  ⟨List.mem_cons_of_mem _ hw.1, fun d hm => (hw.2 d hm).imp (List.mem_cons_of_mem _) id⟩

theorem Watched.push (hw : Watched above g dts) (hf : g.find t = some n) : Watched (t :: above) n dts :=
  ⟨find_tag hf ▸ List.mem_cons_self .., hw.tail.2⟩

def Fresh (above : List Str) : Ev → Prop
  | .start t _ | .stop t => t ∉ above ∧ t ∉ rpcReplyTags
  | .chars _ => True

theorem fresh_chars (p : List Str) : ∀ e ∈ p.map Ev.chars, Fresh above e := by
  simp [Fresh]

theorem fresh_elem (ht : t ∉ above ∧ t ∉ rpcReplyTags) (hb : ∀ e ∈ body, Fresh above e) :
    ∀ e ∈ .start t a :: body ++ [.stop t], Fresh above e := by
  simpa [Fresh, ht, or_imp, forall_and] using hb

theorem fresh_tail {e : Ev} (h : Fresh (t :: above) e) : Fresh above e := by
  cases e with
  | chars _ => trivial
  | start _ _ | stop _ => exact ⟨fun hm => h.1 (List.mem_cons_of_mem _ hm), h.2⟩

theorem feed_ignoring {evs : List Ev} (hev : ∀ e ∈ evs, Fresh above e) (hi : i ∈ above)
    (hw : Watched above g dts) :
    feed lk ⟨ro, g :: rest, w, some i, dts, none, v, out, fl⟩ evs =
      .ok ⟨ro, g :: rest, w, some i, dts, none, v, out, fl⟩ := by
  induction evs with
  | nil => rfl
  | cons e es ih =>
    have ih := ih fun e he => hev e (List.mem_cons_of_mem _ he)
    have he := hev e (List.mem_cons_self ..)
    cases e with
    | start t a => simp only [feed, start_ignoring he.2, ih]
    | stop t =>
      have hit : i ≠ t := fun e => he.1 (e ▸ hi)
      simp only [feed, ih, end_ignoring (hw.ne he).2 (hw.ne he).1, if_neg hit]
    | chars s => exact ih

theorem elem_dropped (ht : t ∉ above ∧ t ∉ rpcReplyTags) (hw : Watched above g dts) (hf : g.find t = none)
    (hb : ∀ e ∈ body, Fresh (t :: above) e) :
    feed lk ⟨some r, g :: rest, w, none, dts, ct, false, out, fl⟩ (.start t a :: body ++ [.stop t]) =
      .ok ⟨some r, g :: rest, w, none, dts, none, false, out, fl⟩ := by
  obtain ⟨hg, hd⟩ := hw.ne ht
  simp only [List.cons_append, feed, start_child ht.2 hg, hf,
    feed_append_ok (feed_ignoring hb (List.mem_cons_self ..) hw.tail), end_ignoring hd hg, if_pos]

theorem elem_kept {mid : Str} (ht : t ∉ above ∧ t ∉ rpcReplyTags) (hw : Watched above g dts)
    (hf : g.find t = some n)
    (hb : ∃ ct', feed lk ⟨some r, n :: g :: rest, w, none, dts, some t, false, out ++ openTag t a, fl⟩ body =
      .ok ⟨some r, n :: g :: rest, w, none, dts, ct', false, out ++ openTag t a ++ mid, fl⟩) :
    feed lk ⟨some r, g :: rest, w, none, dts, ct, false, out, fl⟩ (.start t a :: body ++ [.stop t]) =
      .ok ⟨some r, g :: rest, w, none, dts, none, false, out ++ (openTag t a ++ mid ++ closeTag t), fl⟩ := by
  obtain ⟨hg, hd⟩ := hw.ne ht
  obtain ⟨ct', hb⟩ := hb
  simp only [List.cons_append, feed, start_child ht.2 hg, hf, feed_append_ok hb, end_kept hd (find_tag hf),
    List.append_assoc]

theorem reply_top {e mid : Str} {ea : List (Str × Str)} (he : e ∈ rpcReplyTags) (hf : f.find e = none)
    (ht : f.tag ∉ rpcReplyTags)
    (hb : ∃ ct', feed (.filter f) ⟨some f, [f], false, none, [e, f.tag], some f.tag, false,
        openTag e ea ++ openTag f.tag a, false⟩ body =
      .ok ⟨some f, [f], false, none, [e, f.tag], ct', false, openTag e ea ++ openTag f.tag a ++ mid, false⟩) :
    feed (.filter f) {} (.start e ea :: (.start f.tag a :: body ++ [.stop f.tag]) ++ [.stop e]) =
      .ok ⟨some f, [f], false, none, [e, f.tag], none, false,
        openTag e ea ++ (openTag f.tag a ++ mid ++ closeTag f.tag) ++ closeTag e, false⟩ := by
  have hne : f.tag ≠ e := fun h => ht (h ▸ he)
  obtain ⟨ct', hb⟩ := hb
  simp only [List.cons_append, List.nil_append, feed, start_rpcreply he hne hf, start_top ht, List.append_assoc,
    feed_append_ok hb, end_default (List.mem_cons_of_mem _ (List.mem_cons_self ..)),
    end_default (List.mem_cons_self ..)]

end NcVerif.JunosSaxP
