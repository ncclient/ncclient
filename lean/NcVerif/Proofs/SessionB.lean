/-
  Invariants of Model/Session behind C02, C05, C12: queue / frames / wire, close and worker
  termination, the hello exchange and the negotiation of the framing version.
-/
import NcVerif.Proofs.SessionA
import NcVerif.Proofs.Framing10
import NcVerif.Proofs.Caps
namespace NcVerif.SessionB
open NcVerif NcVerif.Session NcVerif.SessionSpec NcVerif.Framing NcVerif.FramingSpec

theorem run_nil (env : Env) (w : World) : run env w [] = w := rfl
theorem run_cons (env : Env) (w : World) (op : Op) (ops : List Op) :
    run env w (op :: ops) = run env (step env w op) ops := rfl
theorem run_append (env : Env) (w : World) (a b : List Op) :
    run env w (a ++ b) = run env (run env w a) b := by simp [run, List.foldl_append]
theorem runClosed_nil (env : Env) (w : World) : runClosed env w [] = w := rfl

/-- The wire against the concatenated frames `fl`, by the worker's program point: in the write loop the rest of
    the frame is what is missing; on the failure path only "a prefix" is claimed; everywhere else the wire is
    exactly the frames. -/
def wireRel (pc : WPc) (wire fl : Bytes) : Prop :=
  match pc with
  | .writing data => wire ++ data = fl
  | .failing _ | .closingSelf | .stopped => wire <+: fl
  | _ => wire = fl

theorem wireRel_prefix {pc : WPc} {wire fl : Bytes} (h : wireRel pc wire fl) : wire <+: fl := by
  unfold wireRel at h
  split at h
  · exact ⟨_, h⟩
  · exact h
  · exact h
  · exact h
  · exact h ▸ List.prefix_refl _

theorem wireRel_nextPc (todo : List Out) (wire fl : Bytes) : wireRel (nextPc todo) wire fl ↔ wire = fl := by
  unfold nextPc; split <;> rfl

/-- `_q` is FIFO with one consumer (`fifo`); each dequeued item became one frame, in the framing `_base` had at
    that moment, the marked hello always end-of-message (`frames`); `wireRel` (`wire`). -/
structure InvQ (w : World) : Prop where
  fifo : w.dequeued.map Prod.fst ++ w.q = w.puts
  frames : w.frames = w.dequeued.map fun p => frame (p.2 && !p.1.isHello) p.1.data
  wire : wireRel w.pc w.wire w.frames.flatten

theorem invQ_step {env : Env} {w w' : World} {op : Op} (hs : Step env w op w') (h : InvQ w) : InvQ w' := by
  -- between frames the wire is complete (`wireRel` reduces only at a concrete program point, hence the shape of `hk`)
  have hc : ∀ {pc}, w.pc = pc → (∀ wire fl, wireRel pc wire fl = (wire = fl)) → w.wire = w.frames.flatten :=
    fun e hk => hk _ _ ▸ e ▸ h.wire
  cases hs with
  | cSend | kSendHello => exact { h with fifo := by simp [← h.fifo] }
  | wTopSend item rest hpc hq =>
    exact ⟨by simp [← h.fifo, hq], by simp [h.frames], by simp [wireRel, hc hpc fun _ _ => rfl]⟩
  | wWrite data n hpc =>
    have h3 := h.wire
    rw [hpc] at h3
    refine { h with wire := ?_ }
    have e : w.wire ++ data.take n.toNat ++ data.drop n.toNat = w.frames.flatten := by
      rw [List.append_assoc, List.take_append_drop]; exact h3
    unfold writePc
    split
    · rwa [List.isEmpty_iff.1 ‹(data.drop n.toNat).isEmpty = true›, List.append_nil] at e
    · exact e
  -- to the failure path and beyond: only "a prefix" is claimed
  | wWriteFail | wWriteErr | wReadEndFail | wReadErr | wDispatchRaise | wDeliverFail | wErrback | wCloseSelf | wExit =>
    exact { h with wire := wireRel_prefix h.wire }
  -- between frames, before and after
  | wReadData _ hpc | wDeliverInert _ _ hpc | wDeliverRawErr _ _ hpc | wDeliverHello _ _ _ _ hpc
  | wDeliverHelloBad _ _ hpc | wDeliverNotif _ _ hpc | wDeliverReply _ _ _ hpc =>
    exact { h with wire := (wireRel_nextPc _ _ _).2 (hc hpc fun _ _ => rfl) }
  | kStart _ hpc | wTopIdle _ hpc | wSelectRead hpc | wSelectExit hpc | wSelectTop hpc | wReadEndExit _ hpc
  | wDispatchNil hpc => exact { h with wire := hc hpc fun _ _ => rfl }
  | _ => exact { h with }

theorem invQ_run (env : Env) (ops : List Op) : InvQ (run env Session.init ops) :=
  run_inv invQ_step ops ⟨rfl, rfl, rfl⟩

theorem run_wWrite_select (env : Env) (w : World) (ns : List Int) (h : w.pc = .select) :
    run env w (ns.map .wWrite) = w := by
  induction ns with
  | nil => rfl
  | cons n ns ih => rw [List.map_cons, run_cons, show step env w (.wWrite n) = w by simp only [step, h]]; exact ih

theorem short_writes_total (env : Env) (w : World) (data : Bytes) (ns : List Int)
    (hpc : w.pc = .writing data) (hne : data ≠ []) (hpos : ∀ n ∈ ns, 1 ≤ n)
    (hsum : data.length ≤ (ns.map Int.toNat).sum) :
    (run env w (ns.map .wWrite)).wire = w.wire ++ data ∧ (run env w (ns.map .wWrite)).pc = .select := by
  induction ns generalizing w data with
  | nil => exact absurd (List.eq_nil_of_length_eq_zero (Nat.le_zero.1 hsum)) hne
  | cons n ns ih =>
    have hn : ¬ n ≤ 0 := by have := hpos n (by simp); omega
    have hstep : step env w (.wWrite n) =
        { w with wire := w.wire ++ data.take n.toNat, pc := writePc (data.drop n.toNat) } := by
      simp only [step, hpc, hn, if_false, writePc]
    rw [List.map_cons, run_cons, hstep]
    by_cases hemp : data.drop n.toNat = []
    · rw [hemp, run_wWrite_select env _ ns rfl]
      refine ⟨?_, rfl⟩
      show w.wire ++ data.take n.toNat = w.wire ++ data
      rw [← List.take_append_drop n.toNat data, hemp, List.append_nil, List.take_take, Nat.min_self]
    · have := ih { w with wire := w.wire ++ data.take n.toNat, pc := writePc (data.drop n.toNat) }
        (data.drop n.toNat) (writePc_of_ne_nil hemp) hemp (fun m hm => hpos m (by simp [hm]))
        (by simp only [List.map_cons, List.sum_cons] at hsum; simp only [List.length_drop]; omega)
      rw [this.1, this.2]
      exact ⟨(List.append_assoc ..).trans (congrArg _ (List.take_append_drop ..)), rfl⟩

theorem frames_roundtrip10 (ds : List Bytes) (segs : List Bytes) (h : ∀ d ∈ ds, Frameable10 d)
    (hs : segs.flatten = (ds.map (frame false)).flatten) :
    obs (feedAll false Framing.init segs) = outcomes present10 ds := by
  apply Framing10.decode_encode10 ds segs [] h (by decide)
  have hf : frame false = (· ++ delim10) := funext fun d => by simp [frame]
  rw [hs, List.append_nil, hf, enc10]

theorem close_disconnects (env : Env) (w : World) (hc : w.closing = true)
    (hj : env.joins = false ∨ w.pc = .stopped ∨ w.pc = .notStarted) :
    (step env w .cCloseEnd).connected = false := by
  simp only [step]
  rw [if_pos (by simpa [hc, or_assoc] using hj)]

theorem no_callback_after_stop (env : Env) (w : World) (op : Op) (h : w.pc = .stopped)
    (hw : isWorkerOp op = true) : step env w op = w :=
  SessionA.stopped_is_final env w op h hw

theorem closing_step {env : Env} {w w' : World} {op : Op} (hs : Step env w op w') (h : w.closing = true) :
    w'.closing = true := by
  cases hs <;> first | exact h | rfl

theorem disconnected_step {env : Env} {w w' : World} {op : Op} (hs : Step env w op w') (h : w.connected = false) :
    w'.connected = false := by
  cases hs <;> first | exact h | rfl

theorem closed_is_stable (env : Env) (w : World) (ops : List Op) :
    (w.closing = true → (run env w ops).closing = true) ∧
    (w.connected = false → (run env w ops).connected = false) :=
  ⟨run_inv closing_step ops, run_inv disconnected_step ops⟩

/-- The longest way from a program point to `stopped` under `workerOpClosed` (closing set, nothing to read, writes fail):
    `top → writing → failing → closingSelf → stopped` is 4 steps, and `dispatching t` needs one step per output and one more
    to come back to `top`; whence the bound `todoLen w + 5` of `worker_terminates`. -/
def rankPc : WPc → Nat
  | .notStarted => 0
  | .stopped => 0
  | .closingSelf => 1
  | .exiting => 1
  | .failing _ => 2
  | .read => 2
  | .select => 3
  | .writing _ => 3
  | .top => 4
  | .dispatching t => 5 + t.length

theorem rankPc_le (w : World) : rankPc w.pc ≤ todoLen w + 5 := by
  unfold todoLen
  cases w.pc <;> simp [rankPc] <;> omega

theorem rankPc_nextPc (todo : List Out) : rankPc (nextPc todo) ≤ 5 + todo.length := by
  cases todo with
  | nil => decide
  | cons _ t => exact Nat.le_refl _

theorem closed_step (env : Env) (w : World) (c : Bool) (hc : w.closing = true) (hs : w.pc ≠ .notStarted) :
    (step env w (workerOpClosed w c)).closing = true ∧
    (step env w (workerOpClosed w c)).pc ≠ .notStarted ∧
    rankPc (step env w (workerOpClosed w c)).pc ≤ rankPc w.pc - 1 := by
  refine ⟨closing_step (step_rel ..) hc, ?_⟩
  cases hpc : w.pc with
  | notStarted => exact absurd hpc hs
  | top =>
    simp only [workerOpClosed, hpc, step, if_true]
    split
    · split <;> simp [rankPc]
    · simp [rankPc]
  | select => cases c <;> simp [workerOpClosed, hpc, step, hc, rankPc]
  | dispatching todo =>
    simp only [workerOpClosed, hpc]
    match todo with
    | [] => simp [step, hpc, rankPc]
    | .raise k :: rest => cases k <;> simp [step, hpc, rankPc] <;> omega
    | .deliver raw :: rest =>
      rw [step_wDispatch_deliver env w raw rest hpc]
      have := rankPc_nextPc rest
      have := nextPc_running rest
      cases (dispatchMessage env w raw).2 with
      | some e => simp [rankPc]; omega
      | none =>
        refine ⟨fun h => by simp_all [WPc.running], ?_⟩
        show rankPc (nextPc rest) ≤ 5 + (rest.length + 1) - 1
        omega
  | _ => simp [workerOpClosed, hpc, step, rankPc, hc]

theorem worker_terminates_rank (env : Env) (w : World) (cs : List Bool)
    (hc : w.closing = true) (hs : w.pc ≠ .notStarted) (hn : cs.length ≥ rankPc w.pc) :
    (runClosed env w cs).pc = .stopped ∧ (runClosed env w cs).closing = true := by
  induction cs generalizing w with
  | nil =>
    refine ⟨?_, hc⟩
    show w.pc = .stopped
    cases hpc : w.pc <;> simp_all [rankPc]
  | cons c cs ih =>
    obtain ⟨h1, h2, h3⟩ := closed_step env w c hc hs
    rw [runClosed_cons]
    exact ih _ h1 h2 (by simp only [List.length_cons] at hn; omega)

theorem worker_terminates (env : Env) (w : World) (cs : List Bool)
    (hc : w.closing = true) (hs : w.pc ≠ .notStarted) (hn : cs.length ≥ todoLen w + 5) :
    (runClosed env w cs).pc = .stopped :=
  (worker_terminates_rank env w cs hc hs (Nat.le_trans (rankPc_le w) hn)).1

/-- The request-table part of `InvR`: `TInv`'s `hasL`, a weakening of `pend`, and `late`; `close_releases` reads the last. -/
def RpcOk (hasReplyL : Bool) (rpcs : List Rpc) (ids : List Nat) (done : Bool) : Prop :=
  (rpcs ≠ [] → hasReplyL = true) ∧
  (∀ r ∈ rpcs, r.event = true ∨ r.id ∈ ids ∨ r.lateBorn = true) ∧
  (done = true → ∀ r ∈ rpcs, r.event = true ∨ r.lateBorn = true)

structure InvR (w : World) : Prop where
  rpc : RpcOk w.hasReplyL w.rpcs w.id2rpc w.errbackDone
  stopped : w.pc = .closingSelf ∨ w.pc = .stopped → w.errbackDone = true

theorem InvR.of_inv {env : Env} {w : World} (h : SessionA.Inv env w) : InvR w :=
  ⟨⟨h.table.hasL, fun r hr => (Bool.eq_false_or_eq_true r.event).elim .inl fun he => .inr (.inl (h.table.pend r hr he)),
      h.table.late⟩,
    fun hp => hp.elim h.world.closingSelf fun hs => (h.world.stopped hs).2⟩

theorem step_cCloseEnd_pc (env : Env) (w : World) : (step env w .cCloseEnd).pc = w.pc := by
  simp only [step]
  split <;> rfl

theorem close_releases (env : Env) (ops : List Op) (cs : List Bool)
    (hs : (run env Session.init ops).pc ≠ .notStarted)
    (hn : cs.length ≥ todoLen (step env (run env Session.init ops) .cCloseBegin) + 5) :
    let w := step env (runClosed env (step env (run env Session.init ops) .cCloseBegin) cs) .cCloseEnd
    w.connected = false ∧ w.pc = .stopped ∧ ∀ r ∈ w.rpcs, r.event = true ∨ r.lateBorn = true := by
  intro w
  have hinv : InvR w := .of_inv (SessionA.Inv_step env _ _
    (runClosed_inv SessionA.Inv.of_step cs (SessionA.Inv_step env _ _ (SessionA.Inv_run env ops))))
  have hterm := worker_terminates_rank env (step env (run env Session.init ops) .cCloseBegin) cs rfl hs
    (Nat.le_trans (rankPc_le _) hn)
  have hpc : w.pc = .stopped := (step_cCloseEnd_pc env _).trans hterm.1
  exact ⟨close_disconnects env _ hterm.2 (.inr (.inl hterm.1)), hpc, hinv.rpc.2.2 (hinv.stopped (.inr hpc))⟩

/-- Nothing is queued before the hello (`early`) and the hello is queued before the worker starts (`queued`); the
    first item ever queued is the marked hello (`head`); until connect has succeeded `base11` is unset and
    nothing but hellos was queued (`pre`); every other item was framed with the final `base11` (`deq`). -/
structure InvH (w : World) : Prop where
  early : w.conn = .idle ∨ w.conn = .listenersAdded → w.puts = []
  queued : w.conn = .helloQueued ∨ w.conn = .started ∨ w.conn = .done true → w.puts ≠ []
  head : ∀ it, w.puts.head? = some it → it.isHello = true
  pre : w.conn ≠ .done true → w.base11 = false ∧ ∀ it ∈ w.puts, it.isHello = true
  deq : ∀ p ∈ w.dequeued, p.1.isHello = false → p.2 = w.base11

theorem invH_same {w w' : World} (hc : SameCore w w') (h : InvH w) : InvH w' := by
  constructor
  · rw [hc.conn, hc.puts]; exact h.early
  · rw [hc.conn, hc.puts]; exact h.queued
  · rw [hc.puts]; exact h.head
  · rw [hc.conn, hc.puts, hc.base11]; exact h.pre
  · rw [hc.dequeued, hc.base11]; exact h.deq

theorem invH_step {env : Env} {w w' : World} {op : Op} (hs : Step env w op w') (hq : InvQ w) (h : InvH w)
    (hsend : ∀ d, op = .cSend d → w.conn = .done true) : InvH w' := by
  -- facts by the phase of `_post_connect` the step starts in
  have hpre : ∀ {c}, w.conn = c → c ≠ .done true → w.base11 = false ∧ ∀ it ∈ w.puts, it.isHello = true :=
    fun e ne => h.pre (e ▸ ne)
  cases hs with
  | cSend data =>
    have hc := hsend data rfl
    have hne := h.queued (.inr (.inr hc))
    refine { h with early := fun h => by simp [hc] at h, queued := fun _ => by simp, head := fun it hit => h.head it ?_,
                    pre := fun h => absurd hc h }
    cases hp : w.puts with
    | nil => exact absurd hp hne
    | cons a b => simpa [hp] using hit
  | kAddListeners hc => exact { h with early := fun _ => h.early (.inl hc), queued := by simp, pre := fun _ => hpre hc nofun }
  | kSendHello data hc =>
    have hp := h.early (.inr hc)
    exact { h with early := by simp, queued := by simp, head := by simp [hp],
                   pre := fun _ => ⟨(hpre hc nofun).1, by simp [hp]⟩ }
  | kSendHelloRefused _ hc => exact { h with early := by simp, queued := by simp, pre := fun _ => hpre hc nofun }
  | kStart hc => exact { h with early := by simp, queued := fun _ => h.queued (.inl hc), pre := fun _ => hpre hc nofun }
  | kWaitExpire hc | kFinishErr _ hc => exact { h with early := by simp, queued := by simp, pre := fun _ => hpre hc nofun }
  | kFinishOk hc =>
    refine { h with early := by simp, queued := fun _ => h.queued (.inr (.inl hc)), pre := by simp, deq := fun p hp hf => ?_ }
    -- nothing but the hello has been queued so far
    have := (hpre hc nofun).2 p.1 (hq.fifo ▸ List.mem_append_left _ (List.mem_map_of_mem hp))
    simp [hf] at this
  | wTopSend item rest =>
    refine { h with deq := fun p hp => ?_ }
    rcases List.mem_append.1 hp with hp | hp
    · exact h.deq p hp
    · cases List.mem_singleton.1 hp; exact fun _ => rfl
  | _ => exact { h with }

theorem invH_run (env : Env) (ops : List Op) (h : UserAfterConnect env ops) : InvH (run env Session.init ops) := by
  induction ops using snoc_induction with
  | nil => constructor <;> simp [Session.init, run]
  | snoc ops op ih =>
    rw [run_snoc]
    exact invH_step (step_rel ..) (invQ_run env ops)
      (ih fun pre o post e => h pre o (post ++ [op]) (by rw [e, List.append_assoc]; rfl))
      fun d hd => h ops op [] rfl (.inr ⟨d, hd⟩)

theorem hello_first (env : Env) (ops : List Op) (h : UserAfterConnect env ops) :
    ∀ f fs, (run env Session.init ops).frames = f :: fs →
      ∃ d, f = frame false d ∧ (run env Session.init ops).puts.head? = some ⟨d, true⟩ := by
  intro f fs hf
  have hq := invQ_run env ops
  have hh := invH_run env ops h
  generalize run env Session.init ops = w at *
  rw [hq.frames] at hf
  cases hd : w.dequeued with
  | nil => simp [hd] at hf
  | cons p ps =>
    have hfifo := hq.fifo
    rw [hd] at hf hfifo
    simp only [List.map_cons, List.cons.injEq] at hf
    have hhead : w.puts.head? = some p.1 := by rw [← hfifo]; rfl
    have hello := hh.head _ hhead
    exact ⟨p.1.data, by rw [← hf.1, hello]; simp, by rw [hhead, ← hello]⟩

theorem post_hello_framing (env : Env) (ops : List Op) (h : UserAfterConnect env ops) :
    ∀ p ∈ (run env Session.init ops).dequeued, p.1.isHello = false → p.2 = (run env Session.init ops).base11 :=
  (invH_run env ops h).deq

theorem contains_mk_base11 (l : List Str) : Caps.contains (Caps.mk l) base11Uri = true ↔ base11Uri ∈ l :=
  contains_mk_of_not_colon (fun t h => by unfold base11Uri at h; rw [String.toList_ofList] at h; cases h) l

/-- What the hello exchange maintains: where session id and capabilities come from (`caps`), when `base11` is set
    (`base`, `neg`), and that a session that has died wakes the thread waiting in `_post_connect` (`woken`).  `noErr` and
    `hello` are there to make `woken` inductive: no errback before the worker starts (needed at `kStart`), and the
    HelloHandler still registered while connect waits, so that `_dispatch_error` reaches it. -/
structure InvC (env : Env) (w : World) : Prop where
  caps : ∀ sc, w.serverCaps = some sc →
    ∃ raw ∈ w.received, ∃ sid, env.helloParse raw = some (sid, sc) ∧ w.sessionId = some sid
  base : w.conn ≠ .done true → w.base11 = false
  neg : w.conn = .done true → w.hasHello = false ∧
    (w.base11 = true ↔ ∃ sc, w.serverCaps = some sc ∧ base11Uri ∈ sc ∧ base11Uri ∈ env.clientCaps)
  noErr : w.pc = .notStarted → w.errbackDone = false
  hello : w.conn = .listenersAdded ∨ w.conn = .helloQueued ∨ w.conn = .started → w.hasHello = true
  woken : w.errbackDone = true → w.conn = .started → w.initEvent = true ∧ w.helloErr.isSome = true

theorem invC_step {env : Env} {w w' : World} {op : Op} (hs : Step env w op w') (h : InvC env w) : InvC env w' := by
  have hbase : ∀ {c}, w.conn = c → c ≠ .done true → w.base11 = false := fun e ne => h.base (e ▸ ne)
  -- a received message more: what came from an earlier hello still did
  have more : ∀ raw, ∀ sc, w.serverCaps = some sc → ∃ r ∈ w.received ++ [raw], ∃ sid,
      env.helloParse r = some (sid, sc) ∧ w.sessionId = some sid :=
    fun raw sc hsc => let ⟨r, hr, h⟩ := h.caps sc hsc; ⟨r, List.mem_append_left _ hr, h⟩
  -- while connect waits the HelloHandler is registered: `_dispatch_error` sets its event and stores the error
  have err : ∀ e, w.conn = .started →
      (w.hasHello || w.initEvent) = true ∧ (if w.hasHello then some e else w.helloErr).isSome = true :=
    fun e hc => by simp [h.hello (.inr (.inr hc))]
  have started : ∀ {pc : WPc} {P : Prop}, pc.running = true → pc = .notStarted → P :=
    fun h e => absurd e (WPc.ne_of_running h rfl)
  cases hs with
  | kAddListeners hc =>
    exact { h with base := fun _ => hbase hc nofun, neg := nofun, hello := fun _ => rfl, woken := fun _ => nofun }
  | kSendHello _ hc =>
    exact { h with base := fun _ => hbase hc nofun, neg := nofun, hello := fun _ => h.hello (.inl hc), woken := fun _ => nofun }
  | kSendHelloRefused _ hc | kWaitExpire hc | kFinishErr _ hc =>
    exact { h with base := fun _ => hbase hc nofun, neg := nofun, hello := nofun, woken := fun _ => nofun }
  | kStart hc hpc =>
    exact { h with base := fun _ => hbase hc nofun, neg := nofun, noErr := nofun, hello := fun _ => h.hello (.inr (.inl hc)),
                   woken := fun hd => by simp [h.noErr hpc] at hd }
  | kFinishOk hc =>
    refine { h with base := fun h => absurd rfl h, neg := fun _ => ⟨rfl, ?_⟩, hello := nofun, woken := fun _ => nofun }
    dsimp only
    rw [hbase hc nofun]
    cases w.serverCaps <;> simp [contains_mk_base11]
  | wDeliverHello raw _ sid caps hpc _ hh hp =>
    refine { h with caps := fun sc hsc => ?_, neg := fun hc => absurd hh (by simp [(h.neg hc).1]),
                    noErr := started (nextPc_running _), woken := fun hd hc => ⟨rfl, (h.woken hd hc).2⟩ }
    cases hsc
    exact ⟨raw, by simp, sid, hp, rfl⟩
  | wDeliverHelloBad raw _ hpc =>
    exact { h with caps := more raw, noErr := started (nextPc_running _), woken := fun _ _ => ⟨rfl, rfl⟩ }
  | wDeliverRawErr raw _ hpc => exact { h with caps := more raw, noErr := started (nextPc_running _), woken := fun _ => err _ }
  | wErrback | wExit => exact { h with noErr := nofun, woken := fun _ => err _ }
  | wDeliverInert raw | wDeliverNotif raw | wDeliverReply raw =>
    exact { h with caps := more raw, noErr := started (nextPc_running _) }
  | wDeliverFail raw => exact { h with caps := more raw, noErr := nofun }
  | wWrite => exact { h with noErr := started (writePc_running _) }
  | wReadData => exact { h with noErr := started (nextPc_running _) }
  | wTopSend | wTopIdle | wWriteFail | wWriteErr | wSelectRead | wSelectExit | wSelectTop | wReadEndExit
  | wReadEndFail | wReadErr | wDispatchNil | wDispatchRaise | wCloseSelf => exact { h with noErr := nofun }
  | _ => exact { h with }

theorem invC_run (env : Env) (ops : List Op) : InvC env (run env Session.init ops) :=
  run_inv invC_step ops (by constructor <;> simp [Session.init])

theorem session_id_caps_from_hello (env : Env) (ops : List Op) :
    ∀ sc, (run env Session.init ops).serverCaps = some sc →
      ∃ raw ∈ (run env Session.init ops).received, ∃ sid, env.helloParse raw = some (sid, sc) ∧
        (run env Session.init ops).sessionId = some sid :=
  (invC_run env ops).caps

theorem negotiated_iff (env : Env) (ops : List Op) (h : (run env Session.init ops).conn = .done true) :
    (run env Session.init ops).base11 = true ↔
      ∃ sc, (run env Session.init ops).serverCaps = some sc ∧ base11Uri ∈ sc ∧ base11Uri ∈ env.clientCaps :=
  ((invC_run env ops).neg h).2

theorem connect_fails_not_hangs (env : Env) (w : World) (h : w.conn = .started) :
    (w.initEvent = true → ∃ ok, (step env w .kFinish).conn = .done ok) ∧
    (w.initEvent = false → (step env w .kWaitExpire).conn = .done false) := by
  refine ⟨fun hi => ?_, fun hi => by simp [step, h, hi]⟩
  simp only [step, h, hi]
  cases w.helloErr with
  | some e => exact ⟨false, by simp⟩
  | none => exact ⟨true, by simp⟩

theorem dead_session_wakes_connect (env : Env) (ops : List Op)
    (h : (run env Session.init ops).conn = .started)
    (hd : (run env Session.init ops).errbackDone = true) :
    (run env Session.init ops).initEvent = true ∧
      (step env (run env Session.init ops) .kFinish).conn = .done false := by
  obtain ⟨hi, he⟩ := (invC_run env ops).woken hd h
  refine ⟨hi, ?_⟩
  simp only [step, h, hi]
  cases hh : (run env Session.init ops).helloErr with
  | some e => simp
  | none => simp [hh] at he

end NcVerif.SessionB
