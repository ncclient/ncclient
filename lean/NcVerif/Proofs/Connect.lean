/- Lemmas about Model/Connect: `sshTrace` as a sequence of phases, each run only if the one before
   succeeded, and the kinds of event each phase consists of. -/
import NcVerif.Model.Connect
namespace NcVerif.ConnectP
open NcVerif NcVerif.Connect

/-- The host-key phase of `sshTrace`: its events, and whether connect goes on. -/
def keyPhase (c : Cfg) : List Ev × Bool :=
  if c.verify then
    if isKnown c then ([.keyCheck true], true) else ([.keyCheck false, .callback c.cbAccepts], c.cbAccepts)
  else ([], true)

theorem sshTrace_eq (c : Cfg) : sshTrace c =
    (.startClient ::
      if c.negotiates then (keyPhase c).1 ++
        if (keyPhase c).2 then (authTrace 0 c.auths).1 ++
          if (authTrace 0 c.auths).2 then (subsystemTrace 0 c.subsystems).1 else []
        else []
      else [],
     if c.negotiates = false then .negotiationFailed
     else if (keyPhase c).2 = false then .unknownHost
     else if (authTrace 0 c.auths).2 = false then .authenticationError
     else if (subsystemTrace 0 c.subsystems).2 then .connected else .noSubsystem) := by
  rcases hk : keyPhase c with ⟨chk, acc⟩
  unfold keyPhase at hk
  unfold sshTrace
  rcases authTrace 0 c.auths with ⟨au, ok⟩
  simp only [hk]
  cases c.negotiates <;> cases acc <;> cases ok <;> simp

theorem mem_sshTrace (c : Cfg) (e : Ev) : e ∈ (sshTrace c).1 ↔
    e = .startClient ∨ c.negotiates = true ∧ (e ∈ (keyPhase c).1 ∨ (keyPhase c).2 = true ∧
      (e ∈ (authTrace 0 c.auths).1 ∨
        (authTrace 0 c.auths).2 = true ∧ e ∈ (subsystemTrace 0 c.subsystems).1)) := by
  simp [sshTrace_eq]

theorem keyPhase_events (c : Cfg) : ∀ e ∈ (keyPhase c).1, (∃ k, e = .keyCheck k) ∨ ∃ b, e = .callback b := by
  unfold keyPhase
  cases c.verify <;> cases isKnown c <;> simp

theorem keyPhase_verify (c : Cfg) (hv : c.verify = true) : ∃ l, (keyPhase c).1 = .keyCheck (isKnown c) :: l := by
  unfold keyPhase
  cases isKnown c <;> simp [hv]

theorem authTrace_events (i : Nat) (l : List Bool) : ∀ e ∈ (authTrace i l).1, ∃ j ok, e = .auth j ok := by
  induction l generalizing i with
  | nil => nofun
  | cons ok rest ih =>
    cases ok
    · exact List.forall_mem_cons.2 ⟨⟨i, false, rfl⟩, ih (i + 1)⟩
    · exact List.forall_mem_cons.2 ⟨⟨i, true, rfl⟩, nofun⟩

theorem subsystemTrace_events (i : Nat) (l : List Bool) :
    ∀ e ∈ (subsystemTrace i l).1, e = .openSession ∨ (∃ j ok, e = .subsystem j ok) ∨
      (e = .hello ∧ (subsystemTrace i l).2 = true) := by
  induction l generalizing i with
  | nil => nofun
  | cons ok rest ih =>
    cases ok
    · exact List.forall_mem_cons.2 ⟨.inl rfl, List.forall_mem_cons.2 ⟨.inr (.inl ⟨i, false, rfl⟩), ih (i + 1)⟩⟩
    · exact List.forall_mem_cons.2 ⟨.inl rfl, List.forall_mem_cons.2 ⟨.inr (.inl ⟨i, true, rfl⟩),
        List.forall_mem_cons.2 ⟨.inr (.inr ⟨rfl, rfl⟩), nofun⟩⟩⟩

theorem authTrace_all_false (i : Nat) (l : List Bool) (h : ∀ ok ∈ l, ok = false) :
    (authTrace i l).2 = false := by
  induction l generalizing i with
  | nil => rfl
  | cons ok rest ih =>
    obtain ⟨rfl, hr⟩ := List.forall_mem_cons.1 h
    exact ih (i + 1) hr

theorem authTrace_true_mem (i : Nat) (l : List Bool) (h : (authTrace i l).2 = true) :
    ∃ j, Ev.auth j true ∈ (authTrace i l).1 := by
  induction l generalizing i with
  | nil => cases h
  | cons ok rest ih =>
    cases ok
    · obtain ⟨j, hj⟩ := ih (i + 1) h
      exact ⟨j, List.mem_cons_of_mem _ hj⟩
    · exact ⟨i, List.mem_cons_self ..⟩

end NcVerif.ConnectP
