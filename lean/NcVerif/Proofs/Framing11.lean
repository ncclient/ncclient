/-
  Proofs about the 1.1 half of Model/Framing.  `token` is characterised once (`tokView`): what it
  decides is decided by a header `hdr ds` at the front of the data, and stays decided when more data
  arrives.  `R` is `run11` without fuel; `R_resume` says that a run over `rest ++ d` is the run
  over `rest` continued from its final state, so `feedAll true` computes `R` on the whole stream
  (`feedAll_eq_R`) and every theorem about reads becomes one about `R`.
-/
import NcVerif.Proofs.FramingBasic
namespace NcVerif.Framing11
open NcVerif NcVerif.Framing NcVerif.FramingSpec

/-- Canonical chunk-size digit strings: `DIGIT1 *DIGIT`. -/
def SizeDigits (ds : Bytes) : Prop :=
  ∃ c t, ds = c :: t ∧ isDigit19 c = true ∧ ∀ x ∈ t, isDigit x = true

/-- What `RE_NC11_DELIM` admits between `\n#` and `\n`: a chunk size `n ≥ 1` in decimal without
    leading zeros, or `#` (end of chunks). -/
def Body (ds : Bytes) : Prop := (∃ n, 1 ≤ n ∧ ds = natDigits n) ∨ ds = [0x23]

def hdr (ds : Bytes) : Bytes := 0x0a :: 0x23 :: (ds ++ [0x0a])

theorem hdr_length (ds : Bytes) : (hdr ds).length = ds.length + 3 := by simp [hdr]

theorem chunk11_eq (c : Bytes) : chunk11 c = hdr (natDigits c.length) ++ c := by
  simp [chunk11, hdr]

/-! ### `natDigits` / `digitsVal`: inverse bijections between positive numbers and `SizeDigits` strings -/

def dig (k : Nat) : UInt8 := UInt8.ofNat (Nat.digitChar k).toNat

theorem dig_facts : ∀ k, k < 10 → dig k = UInt8.ofNat (48 + k) ∧ (dig k).toNat - 0x30 = k ∧
    isDigit (dig k) = true ∧ (1 ≤ k → isDigit19 (dig k) = true) := by decide

theorem dig_of_isDigit {d : UInt8} (h : isDigit d = true) : dig (d.toNat - 0x30) = d ∧ d.toNat - 0x30 < 10 := by
  simp only [isDigit, Bool.and_eq_true, decide_eq_true_eq, UInt8.le_iff_toNat_le] at h
  have h1 : d.toNat - 0x30 < 10 := by have := h.2; simp at this; omega
  refine ⟨?_, h1⟩
  rw [(dig_facts _ h1).1]
  have : 48 + (d.toNat - 0x30) = d.toNat := by have := h.1; simp at this; omega
  rw [this]; simp

theorem isDigit_of_19 {c : UInt8} (h : isDigit19 c = true) : isDigit c = true ∧ 1 ≤ c.toNat - 0x30 := by
  simp only [isDigit19, isDigit, Bool.and_eq_true, decide_eq_true_eq, UInt8.le_iff_toNat_le] at h ⊢
  have := h.1; have := h.2; simp at *; omega

theorem natDigits_lt {n : Nat} (h : n < 10) : natDigits n = [dig n] := by
  simp [natDigits, Nat.toDigits_of_lt_base h, dig]

theorem natDigits_snoc {v k : Nat} (hv : 1 ≤ v) (hk : k < 10) :
    natDigits (v * 10 + k) = natDigits v ++ [dig k] := by
  simp [natDigits, Nat.mul_comm v, ← Nat.toDigits_append_toDigits (by decide : 1 < 10) hv hk,
    Nat.toDigits_of_lt_base hk, dig]

theorem digitsVal_snoc (ds : Bytes) (d : UInt8) :
    digitsVal (ds ++ [d]) = digitsVal ds * 10 + (d.toNat - 0x30) := by
  simp [digitsVal, List.foldl_append]

theorem sizeDigits_snoc {ds : Bytes} {d : UInt8} (h : SizeDigits ds) (hd : isDigit d = true) : SizeDigits (ds ++ [d]) := by
  obtain ⟨c, t, rfl, hc, ht⟩ := h
  refine ⟨c, t ++ [d], rfl, hc, ?_⟩
  intro x hx
  rcases List.mem_append.mp hx with hx | hx
  · exact ht x hx
  · simp at hx; subst hx; exact hd

theorem natDigits_spec (n : Nat) (h : 1 ≤ n) : SizeDigits (natDigits n) ∧ digitsVal (natDigits n) = n := by
  induction n using Nat.base_induction 10 (by decide) with
  | single m hm =>
    rw [natDigits_lt hm]
    obtain ⟨_, h2, h3, h4⟩ := dig_facts m hm
    exact ⟨⟨dig m, [], rfl, h4 h, by simp⟩, by simp [digitsVal, h2]⟩
  | digit m k hk hm ih =>
    obtain ⟨ihc, ihv⟩ := ih hm
    obtain ⟨_, h2, h3, _⟩ := dig_facts k hk
    rw [Nat.mul_comm, natDigits_snoc hm hk]
    exact ⟨sizeDigits_snoc ihc h3, by rw [digitsVal_snoc, ihv, h2]⟩

/-- Reading further digits `t` from the value `v` of the digits read so far. -/
theorem natDigits_foldl (t : Bytes) (ht : ∀ x ∈ t, isDigit x = true) (v : Nat) (hv : 1 ≤ v) :
    1 ≤ t.foldl (fun acc d => acc * 10 + (d.toNat - 0x30)) v ∧
      natDigits (t.foldl (fun acc d => acc * 10 + (d.toNat - 0x30)) v) = natDigits v ++ t := by
  induction t generalizing v with
  | nil => simp [hv]
  | cons d t ih =>
    obtain ⟨h3, h4⟩ := dig_of_isDigit (ht d (by simp))
    have := ih (fun x hx => ht x (by simp [hx])) (v * 10 + (d.toNat - 0x30)) (by omega)
    rw [natDigits_snoc hv h4, h3] at this
    simpa using this

theorem sizeDigits_spec {ds : Bytes} (h : SizeDigits ds) : 1 ≤ digitsVal ds ∧ natDigits (digitsVal ds) = ds := by
  obtain ⟨c, t, rfl, hc, ht⟩ := h
  obtain ⟨h1, h2⟩ := isDigit_of_19 hc
  obtain ⟨h3, h4⟩ := dig_of_isDigit h1
  have := natDigits_foldl t ht (c.toNat - 0x30) h2
  rw [natDigits_lt h4, h3] at this
  simpa [digitsVal] using this

theorem token_lfHashHash : token [0x0a, 0x23, 0x23] = .need := rfl
theorem token_end (d : UInt8) (r : Bytes) :
    token (0x0a :: 0x23 :: 0x23 :: d :: r) = if d = 0x0a then .endMsg else .bad := rfl

theorem isDigit19_ne_23 {c : UInt8} (h : isDigit19 c = true) : c ≠ 0x23 := by
  rintro rfl; revert h; decide

theorem token_nondigit (c : UInt8) (rest : Bytes) (h23 : c ≠ 0x23) (hc : isDigit19 c = false) :
    token (0x0a :: 0x23 :: c :: rest) = .bad :=
  (if_neg h23).trans (if_neg (by simp [hc]))

theorem token_ne_0a (a : UInt8) (r : Bytes) (h : a ≠ 0x0a) : token (a :: r) = .bad := by
  unfold token
  split <;> simp_all

theorem token_ne_23 (b : UInt8) (r : Bytes) (h : b ≠ 0x23) : token (0x0a :: b :: r) = .bad := by
  unfold token
  split <;> simp_all

theorem takeWhile_split {α} {p : α → Bool} (ds : List α) (d : α) (t : List α)
    (hds : ∀ x ∈ ds, p x = true) (hd : p d = false) :
    (ds ++ d :: t).takeWhile p = ds ∧ (ds ++ d :: t).dropWhile p = d :: t := by
  constructor
  · rw [List.takeWhile_append_of_pos hds, List.takeWhile_cons_of_neg (by simp [hd])]; simp
  · rw [List.dropWhile_append_of_pos hds, List.dropWhile_cons_of_neg (by simp [hd])]

theorem token_digits (ds : Bytes) (d : UInt8) (t : Bytes) (h : SizeDigits ds) (hd : isDigit d = false) :
    token (0x0a :: 0x23 :: (ds ++ d :: t)) =
      if d = 0x0a then .chunk (digitsVal ds) (ds.length + 3) else .bad := by
  obtain ⟨c, ds', rfl, hc, hds⟩ := h
  obtain ⟨h1, h2⟩ := takeWhile_split ds' d t hds hd
  simp only [List.cons_append, token, isDigit19_ne_23 hc, hc, h1, h2, if_false, if_true, List.length_cons]

theorem token_hdr (n : Nat) (t : Bytes) (h : 1 ≤ n) :
    token (hdr (natDigits n) ++ t) = .chunk n ((natDigits n).length + 3) := by
  obtain ⟨h1, h2⟩ := natDigits_spec n h
  have := token_digits _ 0x0a t h1 (by decide)
  simpa [hdr, h2] using this

theorem token_endDelim (t : Bytes) : token (endDelim11 ++ t) = .endMsg := by
  show token (0x0a :: 0x23 :: 0x23 :: 0x0a :: t) = _
  rw [token_end]; simp

theorem token_digits_need (ds : Bytes) (h : SizeDigits ds) : token (0x0a :: 0x23 :: ds) = .need := by
  obtain ⟨c, ds', rfl, hc, hds⟩ := h
  have h0 : ds'.dropWhile isDigit = [] := by
    simpa using List.dropWhile_append_of_pos (p := isDigit) (l₂ := []) hds
  simp only [token, isDigit19_ne_23 hc, hc, h0, if_false, if_true]

/-- What `token r` can be, and why (`tokView : TokView r (token r)`).  `need`: the data is a prefix of a delimiter;
    `endMsg`/`chunk`: a delimiter is at the front; `bad`: for a reason that no further data can remove.  An upper bound,
    not an equivalence: `need` admits the whole delimiter too. -/
inductive TokView : Bytes → Tok → Prop
  | need (q ds : Bytes) : Body ds → q <+: hdr ds → TokView q .need
  | endm (t : Bytes) : TokView (endDelim11 ++ t) .endMsg
  | chunk (n : Nat) (t : Bytes) : 1 ≤ n →
      TokView (hdr (natDigits n) ++ t) (.chunk n ((natDigits n).length + 3))
  | bad (r : Bytes) : (∀ x, token (r ++ x) = .bad) → TokView r .bad

theorem TokView.ofBad {r : Bytes} (h : ∀ x, token (r ++ x) = .bad) : TokView r (token r) := by
  have h0 := h []
  rw [List.append_nil] at h0
  rw [h0]; exact .bad r h

theorem tokView (r : Bytes) : TokView r (token r) := by
  rcases r with _ | ⟨a, r⟩
  · exact .need _ [0x23] (.inr rfl) ⟨hdr [0x23], rfl⟩
  by_cases ha : a = 0x0a
  case neg => exact .ofBad fun x => token_ne_0a _ _ ha
  subst ha
  rcases r with _ | ⟨b, r⟩
  · exact .need _ [0x23] (.inr rfl) ⟨[0x23, 0x23, 0x0a], rfl⟩
  by_cases hb : b = 0x23
  case neg => exact .ofBad fun x => token_ne_23 _ _ hb
  subst hb
  rcases r with _ | ⟨c, rest⟩
  · exact .need _ [0x23] (.inr rfl) ⟨[0x23, 0x0a], rfl⟩
  by_cases hc : c = 0x23
  · subst hc
    rcases rest with _ | ⟨d, t⟩
    · rw [token_lfHashHash]; exact .need _ [0x23] (.inr rfl) ⟨[0x0a], rfl⟩
    by_cases hd : d = 0x0a
    · subst hd; rw [token_end, if_pos rfl]; exact .endm t
    · exact .ofBad fun x => by simp only [List.cons_append, token_end, if_neg hd]
  cases h19 : isDigit19 c with
  | false => exact .ofBad fun x => token_nondigit _ _ hc h19
  | true =>
    cases hdw : rest.dropWhile isDigit with
    | nil =>
      have hcan : SizeDigits (c :: rest) :=
        ⟨c, rest, rfl, h19, by simpa [hdw] using List.any_dropWhile (l := rest) (p := isDigit)⟩
      obtain ⟨h1, h2⟩ := sizeDigits_spec hcan
      rw [token_digits_need _ hcan]
      exact .need _ _ (.inl ⟨_, h1, h2.symm⟩) ⟨[0x0a], rfl⟩
    | cons d t =>
      -- `rest` is digits, then `d`, which is not one
      have hdd : isDigit d = false := by
        simpa [hdw] using List.head_dropWhile_not isDigit (l := rest) (by simp [hdw])
      have hcan : SizeDigits (c :: rest.takeWhile isDigit) :=
        ⟨c, _, rfl, h19, List.all_eq_true.mp List.all_takeWhile⟩
      have hr : (0x0a : UInt8) :: 0x23 :: c :: rest
          = 0x0a :: 0x23 :: ((c :: rest.takeWhile isDigit) ++ d :: t) := by
        rw [List.cons_append, ← hdw, List.takeWhile_append_dropWhile]
      rw [hr]
      by_cases hd : d = 0x0a
      · subst hd
        obtain ⟨h1, h2⟩ := sizeDigits_spec hcan
        have : (0x0a : UInt8) :: 0x23 :: ((c :: rest.takeWhile isDigit) ++ 0x0a :: t)
            = hdr (natDigits (digitsVal (c :: rest.takeWhile isDigit))) ++ t := by rw [h2]; simp [hdr]
        rw [this, token_hdr _ _ h1]; exact .chunk _ t h1
      · exact .ofBad fun x => by
          have := token_digits _ d (t ++ x) hcan hdd
          rw [if_neg hd] at this
          simpa using this

theorem TokView.of_eq {r : Bytes} {k : Tok} (h : token r = k) : TokView r k := h ▸ tokView r

theorem token_chunk_inv {r : Bytes} {n u : Nat} (h : token r = .chunk n u) :
    ∃ t, 1 ≤ n ∧ r = hdr (natDigits n) ++ t ∧ u = (natDigits n).length + 3 := by
  cases TokView.of_eq h with
  | chunk _ t hn => exact ⟨t, hn, rfl, rfl⟩

theorem token_endMsg_inv {r : Bytes} (h : token r = .endMsg) : ∃ t, r = endDelim11 ++ t := by
  cases TokView.of_eq h with
  | endm t => exact ⟨t, rfl⟩

theorem token_need_inv {r : Bytes} (h : token r = .need) : ∃ ds, Body ds ∧ r <+: hdr ds := by
  cases TokView.of_eq h with
  | need _ ds hb hp => exact ⟨ds, hb, hp⟩

theorem token_mono {r : Bytes} {k : Tok} (x : Bytes) (h : token r = k) (hk : k ≠ .need) :
    token (r ++ x) = k := by
  cases TokView.of_eq h with
  | need => exact absurd rfl hk
  | endm t => rw [List.append_assoc]; exact token_endDelim _
  | chunk n t hn => rw [List.append_assoc]; exact token_hdr n _ hn
  | bad _ hb => exact hb x

/-- `run11` without fuel (well-founded on the length of the unread buffer).  The test for an empty
    buffer is left out: `token [] = .need` gives the same result. -/
def R (rest : Bytes) (chunks : List Bytes) : PState × List Out :=
  match _h : token rest with
  | .need => ({ buf := rest, chunks := chunks }, [])
  | .bad => ({ buf := rest, chunks := chunks }, [.raise .framing])
  | .chunk size used =>
    if rest.length ≥ used + size then
      R (rest.drop (used + size)) (chunks ++ [(rest.drop used).take size])
    else ({ buf := rest, chunks := chunks }, [])
  | .endMsg =>
    if chunks.isEmpty then ({ buf := rest, chunks := chunks }, [.raise .framing])
    else
      match Utf8.decode chunks.flatten with
      | none => ({ buf := rest, chunks := [] }, [.raise .decode])
      | some text => ((R (rest.drop 4) []).1, .deliver text :: (R (rest.drop 4) []).2)
termination_by rest.length
decreasing_by
  · obtain ⟨_, _, _, rfl⟩ := token_chunk_inv _h
    simp only [List.length_drop]; omega
  · obtain ⟨t, rfl⟩ := token_endMsg_inv _h
    simp [endDelim11]; omega

theorem R_need {r : Bytes} (cs : List Bytes) (h : token r = .need) :
    R r cs = ({ buf := r, chunks := cs }, []) := by
  rw [R]; split <;> simp_all

theorem R_nil (cs : List Bytes) : R [] cs = ({ buf := [], chunks := cs }, []) := R_need cs rfl

theorem R_bad {r : Bytes} (cs : List Bytes) (h : token r = .bad) :
    R r cs = ({ buf := r, chunks := cs }, [.raise .framing]) := by
  rw [R]; split <;> simp_all

theorem R_chunk {r : Bytes} (cs : List Bytes) {n u : Nat} (h : token r = .chunk n u) :
    R r cs = if r.length ≥ u + n then R (r.drop (u + n)) (cs ++ [(r.drop u).take n])
      else ({ buf := r, chunks := cs }, []) := by
  rw [R]; split <;> simp_all

theorem R_end {r : Bytes} (cs : List Bytes) (h : token r = .endMsg) :
    R r cs = if cs.isEmpty then ({ buf := r, chunks := cs }, [.raise .framing])
      else match Utf8.decode cs.flatten with
        | none => ({ buf := r, chunks := [] }, [.raise .decode])
        | some text => ((R (r.drop 4) []).1, .deliver text :: (R (r.drop 4) []).2) := by
  rw [R]; split <;> simp_all

theorem run11_eq_R (fuel : Nat) (rest : Bytes) (chunks : List Bytes) (h : rest.length + 1 ≤ fuel) :
    run11 fuel rest chunks = R rest chunks := by
  fun_induction run11 fuel rest chunks with
  | case1 => omega
  | case2 fuel rest chunks h0 => simp at h0; subst h0; rw [R_nil]
  | case3 fuel rest chunks _ htok => rw [R_need _ htok]
  | case4 fuel rest chunks _ htok => rw [R_bad _ htok]
  | case5 fuel rest chunks _ size used htok hlen ih =>
    obtain ⟨_, _, _, rfl⟩ := token_chunk_inv htok
    rw [R_chunk _ htok, if_pos hlen, ih (by simp only [List.length_drop]; omega)]
  | case6 fuel rest chunks _ size used htok hlen => rw [R_chunk _ htok, if_neg hlen]
  | case7 fuel rest chunks _ htok hcs => rw [R_end _ htok, if_pos hcs]
  | case8 fuel rest chunks _ htok hcs hdec => rw [R_end _ htok, if_neg hcs, hdec]
  | case9 fuel rest chunks _ htok hcs text hdec s'' outs hrun ih =>
    obtain ⟨t, rfl⟩ := token_endMsg_inv htok
    rw [R_end _ htok, if_neg hcs, hdec, ← ih (by simp [endDelim11] at h ⊢; omega), hrun]

/-! ### `R` by delimiters

The equations and the induction principle through which `R` is used: the buffer begins with a
complete chunk or with the end-of-chunks marker, and `R` goes on with what follows; or `R` stops
there (`Stopped`, `token … = .bad`).  `R_ind` is an induction on byte strings along these cases
and does not mention `R`. -/

theorem R_hdr (n : Nat) (t : Bytes) (cs : List Bytes) (h : 1 ≤ n) :
    R (hdr (natDigits n) ++ t) cs = if n ≤ t.length then R (t.drop n) (cs ++ [t.take n])
      else ({ buf := hdr (natDigits n) ++ t, chunks := cs }, []) := by
  have e : (hdr (natDigits n) ++ t).drop ((natDigits n).length + 3) = t := List.drop_left' (hdr_length _)
  have hl : (hdr (natDigits n) ++ t).length ≥ (natDigits n).length + 3 + n ↔ n ≤ t.length := by
    simp only [List.length_append, hdr_length]; omega
  rw [R_chunk _ (token_hdr n t h), ← List.drop_drop, e]
  simp only [hl]

theorem R_chunk11 (c more : Bytes) (acc : List Bytes) (hc : c ≠ []) :
    R (chunk11 c ++ more) acc = R more (acc ++ [c]) := by
  rw [chunk11_eq, List.append_assoc, R_hdr _ _ _ (List.length_pos_iff.mpr hc), if_pos (by simp),
    List.drop_left, List.take_left]

theorem R_endDelim (t : Bytes) (cs : List Bytes) :
    R (endDelim11 ++ t) cs = if cs.isEmpty then ({ buf := endDelim11 ++ t, chunks := cs }, [.raise .framing])
      else match Utf8.decode cs.flatten with
        | none => ({ buf := endDelim11 ++ t, chunks := [] }, [.raise .decode])
        | some text => ((R t []).1, .deliver text :: (R t []).2) :=
  R_end _ (token_endDelim t)

/-- Why the machine stops without raising: it needs more data for a delimiter or for a chunk. -/
def Stopped (r : Bytes) : Prop :=
  token r = .need ∨ ∃ n t, 1 ≤ n ∧ r = hdr (natDigits n) ++ t ∧ t.length < n

theorem R_of_stopped {r : Bytes} (cs : List Bytes) (h : Stopped r) :
    R r cs = ({ buf := r, chunks := cs }, []) := by
  rcases h with h | ⟨n, t, hn, rfl, hlen⟩
  · exact R_need cs h
  · rw [R_hdr _ _ _ hn, if_neg (by omega)]

theorem R_ind {P : Bytes → List Bytes → Prop}
    (stopped : ∀ r cs, Stopped r → P r cs)
    (bad : ∀ r cs, token r = .bad → P r cs)
    (chunk : ∀ c t cs, c ≠ [] → P t (cs ++ [c]) → P (chunk11 c ++ t) cs)
    (endEmpty : ∀ t, P (endDelim11 ++ t) [])
    (endFail : ∀ t cs, cs ≠ [] → Utf8.decode cs.flatten = none → P (endDelim11 ++ t) cs)
    (endOk : ∀ t cs text, cs ≠ [] → Utf8.decode cs.flatten = some text → P t [] →
      P (endDelim11 ++ t) cs)
    (r : Bytes) (cs : List Bytes) : P r cs := by
  generalize hl : r.length = l
  induction l using Nat.strongRecOn generalizing r cs with | _ l ih => ?_
  subst hl
  generalize hk : token r = k
  cases TokView.of_eq hk with
  | need => exact stopped r cs (.inl hk)
  | bad => exact bad r cs hk
  | chunk n t hn =>
    by_cases hlen : n ≤ t.length
    · have hl : (t.take n).length = n := List.length_take_of_le hlen
      have e : hdr (natDigits n) ++ t = chunk11 (t.take n) ++ t.drop n := by
        rw [chunk11_eq, hl, List.append_assoc, List.take_append_drop]
      rw [e]
      refine chunk _ _ cs (by rintro h0; rw [h0] at hl; subst hl; cases hn) (ih _ ?_ _ _ rfl)
      simp only [List.length_drop, List.length_append, hdr_length]; omega
    · exact stopped _ cs (.inr ⟨n, t, hn, rfl, Nat.not_le.mp hlen⟩)
  | endm t =>
    have ih' : P t [] := ih _ (by simp [endDelim11]; omega) _ _ rfl
    rcases cs with _ | ⟨c, cs⟩
    · exact endEmpty t
    · cases hdec : Utf8.decode (c :: cs).flatten with
      | none => exact endFail t _ nofun hdec
      | some text => exact endOk t _ text nofun hdec ih'

theorem hasRaise_nil : hasRaise [] = false := rfl

theorem R_resume (rest : Bytes) (chunks : List Bytes) (d : Bytes) :
    (R (rest ++ d) chunks).2 =
      andThen (R rest chunks).2 (R ((R rest chunks).1.buf ++ d) (R rest chunks).1.chunks).2 := by
  induction rest, chunks using R_ind with
  | stopped r cs h => simp [R_of_stopped _ h]
  | bad r cs h => simp [R_bad _ h, R_bad _ (token_mono d h nofun)]
  | chunk c t cs hc ih => rw [List.append_assoc, R_chunk11 _ _ _ hc, R_chunk11 _ _ _ hc]; exact ih
  | endEmpty t => simp [R_endDelim]
  | endFail t cs hcs hdec => simp [R_endDelim, hcs, hdec]
  | endOk t cs text hcs hdec ih => simp [R_endDelim, hcs, hdec, ih]

theorem R_buf_stopped (rest : Bytes) (chunks : List Bytes) :
    hasRaise (R rest chunks).2 = false → Stopped (R rest chunks).1.buf := by
  induction rest, chunks using R_ind with
  | stopped r cs h => intro _; rw [R_of_stopped _ h]; exact h
  | bad r cs h => simp [R_bad _ h]
  | chunk c t cs hc ih => rw [R_chunk11 _ _ _ hc]; exact ih
  | endEmpty t => simp [R_endDelim]
  | endFail t cs hcs hdec => simp [R_endDelim, hcs, hdec]
  | endOk t cs text hcs hdec ih => simpa [R_endDelim, hcs, hdec] using ih

theorem feed_eq_R (s : PState) (data : Bytes) (h : Stopped s.buf) :
    feed true s data =
      ({ (R (s.buf ++ data) s.chunks).1 with pos10 := s.pos10 }, (R (s.buf ++ data) s.chunks).2) := by
  simp only [feed, parse11, if_true]
  split
  · rename_i h0; simp at h0; subst h0
    rw [List.append_nil, R_of_stopped _ h]
  · rw [run11_eq_R _ _ _ (Nat.le_refl _)]

theorem feedAll_eq_R_from (segs : List Bytes) (s : PState) (h : Stopped s.buf) :
    (feedAll true s segs).2 = (R (s.buf ++ segs.flatten) s.chunks).2 := by
  induction segs generalizing s with
  | nil => simp [feedAll, R_of_stopped _ h]
  | cons seg segs ih =>
    rw [feedAll_cons_outs, List.flatten_cons, ← List.append_assoc, R_resume, feed_eq_R s seg h]
    exact andThen_congr fun hr => ih _ (R_buf_stopped _ _ hr)

theorem feedAll_eq_R (segs : List Bytes) : obs (feedAll true init segs) = (R segs.flatten []).2 :=
  feedAll_eq_R_from segs init (.inl rfl)

theorem seg_indep11 (segs₁ segs₂ : List Bytes) (h : segs₁.flatten = segs₂.flatten) :
    obs (feedAll true init segs₁) = obs (feedAll true init segs₂) := by
  rw [feedAll_eq_R, feedAll_eq_R, h]

theorem R_chunks (cs : List Bytes) (more : Bytes) (acc : List Bytes) (h : ∀ c ∈ cs, c ≠ []) :
    R ((cs.map chunk11).flatten ++ more) acc = R more (acc ++ cs) := by
  induction cs generalizing acc with
  | nil => simp
  | cons c cs ih =>
    simp only [List.map_cons, List.flatten_cons, List.append_assoc]
    rw [R_chunk11 _ _ _ (h c (by simp)), ih _ (fun x hx => h x (by simp [hx]))]
    simp

theorem R_enc11 (mss : List (List Bytes)) (more : Bytes) (h : WF mss) :
    (R (enc11 mss ++ more) []).2 =
      andThen (outcomes present11 (mss.map List.flatten)) (R more []).2 := by
  induction mss with
  | nil => simp [enc11, outcomes]
  | cons cs mss ih =>
    have hw : WFmsg cs := h cs (by simp)
    have hne : cs.isEmpty = false := by simpa using hw.1
    have e : enc11 (cs :: mss) ++ more
        = (cs.map chunk11).flatten ++ (endDelim11 ++ (enc11 mss ++ more)) := by simp [enc11, enc11msg]
    rw [e, R_chunks _ _ _ hw.2, List.nil_append, R_endDelim, ih (fun x hx => h x (by simp [hx]))]
    cases hd : Utf8.decode cs.flatten <;> simp [hne, outcomes, present11, hd]

/-- What is dispatched for well-formed messages followed by anything, in whatever reads.
    `decode_encode11`, `no_early11` and `bad_header_raises` are the cases `more = []`, a partial
    message, and data on which `token` is `bad`. -/
theorem spec11 (mss : List (List Bytes)) (more : Bytes) (segs : List Bytes)
    (hw : WF mss) (h : segs.flatten = enc11 mss ++ more) :
    obs (feedAll true init segs) =
      andThen (outcomes present11 (mss.map List.flatten)) (R more []).2 := by
  rw [feedAll_eq_R, h, R_enc11 mss more hw]

theorem decode_encode11 (mss : List (List Bytes)) (segs : List Bytes)
    (hw : WF mss) (h : segs.flatten = enc11 mss) :
    obs (feedAll true init segs) = outcomes present11 (mss.map List.flatten) := by
  rw [spec11 mss [] segs hw (by simpa using h), R_nil, andThen_nil]

theorem outcomes_valid (mss : List (List Bytes)) (hd : ∀ cs ∈ mss, Utf8.valid cs.flatten = true) :
    outcomes present11 (mss.map List.flatten) =
      mss.map fun cs => .deliver ((Utf8.decode cs.flatten).getD []) := by
  induction mss with
  | nil => rfl
  | cons cs mss ih =>
    have h1 := hd cs (by simp)
    simp only [Utf8.valid] at h1
    obtain ⟨t, ht⟩ := Option.isSome_iff_exists.mp h1
    simp [outcomes, present11, ht, ih (fun x hx => hd x (by simp [hx]))]

theorem bad_header_raises (mss : List (List Bytes)) (junk : Bytes) (segs : List Bytes)
    (hw : WF mss) (hd : ∀ cs ∈ mss, Utf8.valid cs.flatten = true) (hj : token junk = .bad)
    (h : segs.flatten = enc11 mss ++ junk) :
    obs (feedAll true init segs) =
      (mss.map fun cs => .deliver ((Utf8.decode cs.flatten).getD [])) ++ [.raise .framing] := by
  rw [spec11 mss junk segs hw h, R_bad _ hj, outcomes_valid _ hd, andThen_of_not_hasRaise]
  simp [hasRaise]

/-- The message short of its last octet yields nothing, and what is output only grows with the
    input (`R_resume`). -/
theorem R_partial (cs : List Bytes) (acc : List Bytes) (q : Bytes) (hcs : ∀ c ∈ cs, c ≠ [])
    (hq : q <+: (cs.map chunk11).flatten ++ endDelim11)
    (hne : q ≠ (cs.map chunk11).flatten ++ endDelim11) : (R q acc).2 = [] := by
  have e : (cs.map chunk11).flatten ++ endDelim11
      = ((cs.map chunk11).flatten ++ [0x0a, 0x23, 0x23]) ++ [0x0a] := by simp [endDelim11]
  rw [e] at hq hne
  rcases List.prefix_concat_iff.mp hq with h | ⟨x, hx⟩
  · exact absurd h hne
  · have h0 : (R ((cs.map chunk11).flatten ++ [0x0a, 0x23, 0x23]) acc).2 = [] := by
      rw [R_chunks _ _ _ hcs, R_need _ token_lfHashHash]
    rw [← hx, R_resume] at h0
    exact andThen_eq_nil h0

theorem no_early11 (mss : List (List Bytes)) (q : Bytes) (segs : List Bytes)
    (hw : WF mss) (hq : PartialMsg q) (h : segs.flatten = enc11 mss ++ q) :
    obs (feedAll true init segs) = outcomes present11 (mss.map List.flatten) := by
  obtain ⟨cs, hcs, hpre, hne⟩ := hq
  rw [spec11 mss q segs hw h, R_partial cs [] q hcs.2 hpre hne, andThen_nil]

/-- The messages delivered from `(rest, acc)` are well-formed messages at the front of the stream
    that `acc` and `rest` came from. -/
theorem R_sound (rest : Bytes) (acc : List Bytes) : (∀ c ∈ acc, c ≠ []) →
    Sound WFmsg enc11msg (fun cs => present11 cs.flatten) ((acc.map chunk11).flatten ++ rest)
      (R rest acc).2 := by
  induction rest, acc using R_ind with
  | stopped r acc h => intro _; rw [R_of_stopped _ h]; exact .nil _
  | bad r acc h => intro _; rw [R_bad _ h]; exact .raise _ _
  | chunk c t acc hc ih =>
    intro hacc
    rw [R_chunk11 _ _ _ hc]
    simpa using ih (List.forall_mem_append.mpr ⟨hacc, by simpa using hc⟩)
  | endEmpty t => intro _; rw [R_endDelim]; exact .raise _ _
  | endFail t acc hcs hdec =>
    intro _; rw [R_endDelim, if_neg (by simpa using hcs), hdec]; exact .raise _ _
  | endOk t acc text hcs hdec ih =>
    intro hacc
    have := Sound.deliver (ok := WFmsg) (enc := enc11msg) (present := fun cs => present11 cs.flatten)
      (m := acc) ⟨hcs, hacc⟩ hdec (ih nofun)
    rw [R_endDelim, if_neg (by simpa using hcs), hdec]
    simpa [enc11msg] using this

theorem delivered_sound11 (segs : List Bytes) :
    Sound WFmsg enc11msg (fun cs => present11 cs.flatten) segs.flatten (obs (feedAll true init segs)) := by
  rw [feedAll_eq_R]
  simpa using R_sound segs.flatten [] nofun

theorem R_endDelim_pos (more : Bytes) (cs : List Bytes) : 0 < (R (endDelim11 ++ more) cs).2.length := by
  rw [R_endDelim]
  split
  · simp
  · split <;> simp

/-- From any stopped state some extension produces one more output: complete the pending header
    and chunk (payload padding is arbitrary) and close the message. -/
theorem stopped_progress {r : Bytes} (cs : List Bytes) (h : Stopped r) :
    ∃ ext, 0 < (R (r ++ ext) cs).2.length := by
  have fill : ∀ (n : Nat) (t : Bytes), 1 ≤ n → t.length ≤ n →
      ∃ x, 0 < (R (hdr (natDigits n) ++ t ++ x) cs).2.length := by
    intro n t hn ht
    refine ⟨List.replicate (n - t.length) 0 ++ endDelim11, ?_⟩
    rw [List.append_assoc, ← List.append_assoc t, R_hdr _ _ _ hn, if_pos (by simp; omega),
      List.drop_left' (by simp; omega)]
    simpa using R_endDelim_pos [] _
  rcases h with h | ⟨n, t, hn, rfl, hlen⟩
  · obtain ⟨ds, hb, e, he⟩ := token_need_inv h
    rcases hb with ⟨n, hn, rfl⟩ | rfl
    · obtain ⟨x, hx⟩ := fill n [] hn (Nat.zero_le _)
      exact ⟨e ++ x, by rwa [List.append_nil, ← he, List.append_assoc] at hx⟩
    · refine ⟨e, ?_⟩
      have := R_endDelim_pos [] cs
      rwa [List.append_nil, show endDelim11 = hdr [0x23] from rfl, ← he] at this
  · exact fill n t hn (by omega)

theorem no_stall11 (segs : List Bytes) (h : hasRaise (obs (feedAll true init segs)) = false) :
    ∃ ext : Bytes, (obs (feedAll true init (segs ++ [ext]))).length >
      (obs (feedAll true init segs)).length := by
  rw [feedAll_eq_R] at h
  obtain ⟨ext, hext⟩ := stopped_progress (R segs.flatten []).1.chunks (R_buf_stopped _ _ h)
  refine ⟨ext, ?_⟩
  rw [feedAll_eq_R, feedAll_eq_R]
  have : (segs ++ [ext]).flatten = segs.flatten ++ ext := by simp
  rw [this, R_resume, andThen_of_not_hasRaise _ h]
  simp only [List.length_append]
  omega

end NcVerif.Framing11
