/- Model/Builders, verified by a postcondition calculus for `Except Refusal`: `Ok x P` says that `x`, if it succeeds, yields
   a value with `P`.  Every primitive and every part of a request has a specification in this form (`*_spec`), proved by a term
   that follows its `do` block bind by bind.  What a specification says of the elements that are built is gathered in `Params`
   (their names, and their well-formedness given that of the trees the caller handed in), what it says of the capabilities
   that were asserted in `Sat`.  `build_spec` is the statement about all calls; well-formedness, capabilities and parameter
   order are its projections. -/
import NcVerif.Model.Builders
import NcVerif.Proofs.XmlDoc
namespace NcVerif.BuildersOrderP
open NcVerif.Builders

/-- The parameter elements RFC 6241 defines for each call, in its order. -/
def rfcOrder : Builders.Call → List Str
  | .edit _ _ _ _ _ => [nc "target", nc "default-operation", nc "test-option", nc "error-option", nc "config", s "config", nc "config-text", nc "url"]
  | .lock _ => [nc "target"]
  | .unlock _ => [nc "target"]
  | .getConfig _ => [nc "source"]
  | .delete _ => [nc "target"]
  | .copy _ _ => [nc "target", nc "source"]
  | .validate _ => [nc "source"]
  | .commit _ _ _ _ => [nc "confirmed", nc "confirm-timeout", nc "persist", nc "persist-id"]
  | .cancel _ => [nc "persist-id"]
  | .discard => []
  | .kill _ => [nc "session-id"]
  | .close => []

end NcVerif.BuildersOrderP

namespace NcVerif.BuildersP
open NcVerif NcVerif.XmlDoc NcVerif.XmlText NcVerif.Builders NcVerif.XmlDocP NcVerif.BuildersOrderP

variable {α β : Type} {A : Prop} {n : Str} {a : List (Str × Str)} {o o' o₁ o₂ : List Str} {l l₁ l₂ cs : List XNode}

def Ok (x : Except Refusal α) (P : α → Prop) : Prop := ∀ a, x = .ok a → P a

theorem Ok.pure {a : α} {P : α → Prop} (h : P a) : Ok (pure a) P := by
  intro b hb; cases hb; exact h

theorem Ok.error {e : Refusal} {P : α → Prop} : Ok (.error e) P := nofun

theorem Ok.mono {x : Except Refusal α} {P Q : α → Prop} (h : Ok x P) (hPQ : ∀ a, P a → Q a) : Ok x Q :=
  fun a ha => hPQ a (h a ha)

theorem Ok.bind {x : Except Refusal α} {f : α → Except Refusal β} {Q : α → Prop} {P : β → Prop}
    (hx : Ok x Q) (hf : ∀ a, Q a → Ok (f a) P) : Ok (x >>= f) P := by
  intro b hb
  cases x with
  | error e => cases hb
  | ok a => exact hf a (hx a rfl) b hb

theorem Ok.ite {c : Prop} [Decidable c] {x y : Except Refusal α} {P : α → Prop}
    (hx : c → Ok x P) (hy : ¬c → Ok y P) : Ok (if c then x else y) P := by
  split
  · exact hx ‹_›
  · exact hy ‹_›

theorem Ok.refused {x : Except Refusal α} {P : α → Prop} (h : Ok x P) (hn : ∀ a, ¬P a) : ∃ r, x = .error r := by
  cases x with
  | error r => exact ⟨r, rfl⟩
  | ok a => exact absurd (h a rfl) (hn a)

/-- The refusal of an inconsistent combination of arguments. -/
theorem Ok.unless {c : Prop} [Decidable c] {e : Refusal} : Ok (if c then .error e else Pure.pure ()) fun _ => ¬c :=
  .ite (fun _ => .error) fun h => .pure h

/-- A literal as its characters, which unification reads off it: evaluating `"…".toList` instead makes the kernel decode the
    string's bytes, at several times the cost of looking at the characters. -/
theorem s_ofList (cs : List Char) : s (String.ofList cs) = cs := String.toList_ofList

theorem s_valid {cs : List Char} (h : validName cs = true) : validName (s (String.ofList cs)) = true :=
  (s_ofList cs).symm ▸ h

theorem pfx_valid {p : String} {cs : List Char} (hp : validName (s p) = true) (h : cs.all isNameChar = true) :
    validName (s p ++ s (String.ofList cs)) = true :=
  validName_append hp ((s_ofList cs).symm ▸ List.all_eq_true.1 h)

theorem nc_valid {cs : List Char} (h : cs.all isNameChar = true) : validName (nc (String.ofList cs)) = true :=
  pfx_valid (by decide) h

theorem valid_target : validName (nc "target") = true := nc_valid (by decide)
theorem valid_source : validName (nc "source") = true := nc_valid (by decide)
theorem valid_url : validName (nc "url") = true := nc_valid (by decide)

def nameOf : XNode → Option Str
  | .elem n _ _ => some n
  | .text _ => none

def names (l : List XNode) : List Str := l.filterMap nameOf

theorem paramNames_elem (n : Str) (a : List (Str × Str)) (cs : List XNode) : paramNames (.elem n a cs) = names cs := rfl

def Good (t : XNode) : Prop := wf t = true ∧ isText t = false

theorem Good.rpc_roundtrip {t : XNode} (h : Good t) (mid : Str) :
    parseDoc (serialize (rpcTree "nc:".toList mid t)) = some (rpcTree "nc:".toList mid t) ∧
    attrOf "message-id".toList (rpcTree "nc:".toList mid t) = some mid := by
  cases t with
  | text _ => cases h.2
  | elem n a cs => exact XmlDocP.rpc_roundtrip _ mid n a cs (Or.inl rfl) h.1

theorem wf_elem (h0 : wf (.elem n a []) = true) (hc : wfList cs = true) : wf (.elem n a cs) = true := by
  simp only [wf, wfList, Bool.and_true] at h0 ⊢
  rw [h0, hc]; rfl

theorem wf_bare (hn : validName n = true) : wf (.elem n [] []) = true := by
  simp [wf, wfList, hn]

theorem wf_oneAttr {k : Str} (v : Str) (hn : validName n = true) (hk : validName k = true) : wf (.elem n [(k, v)] []) = true := by
  simp [wf, wfList, hn, hk]

/-- A list of parameter elements: their names, in order, are drawn from `order` without repetition; and, provided `A` (that
    the trees the caller handed in are good), all are good.  The names never depend on `A`. -/
def Params (A : Prop) (order : List Str) (l : List XNode) : Prop := (names l).Sublist order ∧ (A → ∀ c ∈ l, Good c)

/-- The same of an element with its children. -/
def Built (A : Prop) (order : List Str) (t : XNode) : Prop := (paramNames t).Sublist order ∧ (A → Good t)

theorem Params.nil : Params A o [] := ⟨List.nil_sublist o, fun _ => nofun⟩

theorem Params.one {x : XNode} (hn : nameOf x = some n) (hg : A → Good x) : Params A [n] [x] :=
  ⟨by simp [names, hn], fun a c hc => by rw [List.mem_singleton.1 hc]; exact hg a⟩

theorem Params.ofGood (h : A → ∀ c ∈ l, Good c) : Params A (names l) l := ⟨.refl _, h⟩

theorem Params.append (h₁ : Params A o₁ l₁) (h₂ : Params A o₂ l₂) : Params A (o₁ ++ o₂) (l₁ ++ l₂) :=
  ⟨by rw [names, List.filterMap_append]; exact h₁.1.append h₂.1,
   fun a c hc => (List.mem_append.1 hc).elim (h₁.2 a c) (h₂.2 a c)⟩

theorem Params.mono (h : Params A o l) (ho : o.Sublist o') : Params A o' l :=
  ⟨h.1.trans ho, h.2⟩

/-- An element whose name is one of two (the prefixed and the bare spelling of a root the caller made). -/
theorem Params.either {x : XNode} {a b : Str} (hn : nameOf x = some a ∨ nameOf x = some b) (hg : A → Good x) :
    Params A [a, b] [x] :=
  hn.elim (fun h => (Params.one h hg).mono (by simp)) fun h => (Params.one h hg).mono (by simp)

theorem Params.elem (h0 : wf (.elem n a []) = true) (h : Params A o cs) : Built A o (.elem n a cs) :=
  ⟨paramNames_elem n a cs ▸ h.1, fun ha => ⟨wf_elem h0 (wfList_elems cs (h.2 ha)), rfl⟩⟩

theorem Params.el (hn : validName n = true) (h : Params A o cs) : Built A o (.elem n [] cs) :=
  h.elem (wf_bare hn)

theorem Built.param (h : Built A o (.elem n a cs)) : Params A [n] [.elem n a cs] :=
  .one rfl h.2

theorem Params.bare (hn : validName n = true) : Params A [n] [.elem n [] []] :=
  (Params.nil.el (o := []) hn).param

/-- An element that holds one text, or nothing if the text is empty (as lxml has it). -/
theorem Params.text (t : Str) (h0 : wf (.elem n a []) = true) :
    Params A [n] [.elem n a (if t.isEmpty then [] else [.text t])] := by
  refine .one rfl fun _ => ⟨wf_elem h0 ?_, rfl⟩
  split
  · rfl
  · rename_i h; simp [wfList, wf, h]

def Sat (has : Str → Bool) (l : List String) : Prop := ∀ cap ∈ l, has (s cap) = true

theorem Sat.nil {has : Str → Bool} : Sat has [] := nofun

theorem Sat.cons {has : Str → Bool} {c : String} {l : List String} (h : has (s c) = true) (hl : Sat has l) : Sat has (c :: l) :=
  List.forall_mem_cons.2 ⟨h, hl⟩

theorem Sat.append {has : Str → Bool} {l₁ l₂ : List String} (h₁ : Sat has l₁) (h₂ : Sat has l₂) : Sat has (l₁ ++ l₂) :=
  List.forall_mem_append.2 ⟨h₁, h₂⟩

theorem Sat.ite {has : Str → Bool} {c : Prop} [Decidable c] {l : List String} (h : c → Sat has l) : Sat has (if c then l else []) := by
  split
  · exact h ‹_›
  · exact .nil

theorem leaf_eq (name : String) (t : Str) : Ok (leaf name t) fun x => x = .elem (nc name) [] (if t.isEmpty then [] else [.text t]) :=
  .ite (fun _ => .pure rfl) fun _ => .error

theorem leaf_spec {name : String} (t : Str) (hn : validName (nc name) = true) :
    Ok (leaf name t) fun x => Params A [nc name] [x] :=
  (leaf_eq name t).mono fun _ h => h ▸ .text t (wf_bare hn)

theorem optLeaf_spec {name : String} (o : Option Str) (hn : validName (nc name) = true) :
    Ok (optLeaf name o) (Params A [nc name]) := by
  cases o with
  | none => exact .pure .nil
  | some t => exact (leaf_spec t hn).bind fun _ h => .pure h

theorem named_spec (n : Str) : Ok (named n) fun x => x = .elem (s "nc:" ++ n) [] [] ∧ validName (s "nc:" ++ n) = true := by
  refine .ite (fun h => .pure ⟨rfl, ?_⟩) fun _ => .error
  exact validName_append (by decide) (validName_all (Bool.and_eq_true _ _ ▸ h).1)

theorem assertCap_spec {has : Str → Bool} {cap : String} : Ok (assertCap has cap) fun _ => has (s cap) = true :=
  .ite (fun h => .pure h) fun _ => .error

theorem assertIf_spec {has : Str → Bool} {c : Bool} {cap : String} : Ok (assertIf has c cap) fun _ => c = true → has (s cap) = true :=
  .ite (fun _ => assertCap_spec.mono fun _ h _ => h) fun h => .pure (absurd · h)

theorem validateArg_spec {v : Str} {allowed : List String} : Ok (validateArg v allowed) fun _ => ∃ a ∈ allowed, s a = v :=
  .ite (fun h => .pure (by simpa using h)) fun _ => .error

/-- The last component is the datastore argument as it is sent: a URL as the text of `<url>`, a name as the (only) child
    element. -/
theorem datastoreOrUrl_spec (has : Str → Bool) {wha : String} (loc : Str) (hn : validName (nc wha) = true) :
    Ok (datastoreOrUrl has wha loc) fun x => Params A [nc wha] [x] ∧ Sat has (urlCap loc) ∧
      x = el wha [if hasSub (s "://") loc then .elem (nc "url") [] (if loc.isEmpty then [] else [.text loc])
        else .elem (s "nc:" ++ loc) [] []] := by
  unfold datastoreOrUrl urlCap
  split
  · exact assertCap_spec.bind fun _ ha => (leaf_eq "url" loc).bind fun _ hl =>
      .pure ⟨hl ▸ ((Params.text loc (wf_bare valid_url)).el hn).param, .cons ha .nil, hl ▸ rfl⟩
  · exact (named_spec loc).bind fun _ ⟨hd, hv⟩ => .pure ⟨hd ▸ ((Params.bare hv).el hn).param, .nil, hd ▸ rfl⟩

/-- The enumerations RFC 6241 §7.2 fixes for `default-operation`, `test-option`, `error-option`. -/
def enumDo : List String := ["merge", "replace", "none"]
def enumTo : List String := ["test-then-set", "set", "test-only"]
def enumEo : List String := ["stop-on-error", "continue-on-error", "rollback-on-error"]

theorem defaultOpPart_spec (dop : Option Str) : Ok (defaultOpPart dop) fun l =>
    Params A [nc "default-operation"] l ∧ ∀ d, dop = some d → ∃ a ∈ enumDo, s a = d := by
  cases dop with
  | none => exact .pure ⟨.nil, nofun⟩
  | some d =>
    exact validateArg_spec.bind fun _ hv => (leaf_spec d (nc_valid (by decide))).bind fun _ hl =>
      .pure ⟨hl, fun _ h => Option.some.inj h ▸ hv⟩

/-- The last component is the test-option's share of `required`. -/
theorem testOptPart_spec (has : Str → Bool) (top : Option Str) : Ok (testOptPart has top) fun l =>
    Params A [nc "test-option"] l ∧ (∀ x, top = some x → ∃ a ∈ enumTo, s a = x) ∧
    Sat has (match top with | some x => ":validate" :: (if x = s "test-only" then [":validate:1.1"] else []) | none => []) := by
  cases top with
  | none => exact .pure ⟨.nil, nofun, .nil⟩
  | some t =>
    exact validateArg_spec.bind fun _ hv => assertCap_spec.bind fun _ ha => assertIf_spec.bind fun _ ha2 =>
      (leaf_spec t (nc_valid (by decide))).bind fun _ hl =>
        .pure ⟨hl, fun _ h => Option.some.inj h ▸ hv, .cons ha (.ite fun h => .cons (ha2 (decide_eq_true h)) .nil)⟩

theorem errorOptPart_spec (has : Str → Bool) (eop : Option Str) : Ok (errorOptPart has eop) fun l =>
    Params A [nc "error-option"] l ∧ (∀ e, eop = some e → ∃ a ∈ enumEo, s a = e) ∧
    Sat has (if eop = some (s "rollback-on-error") then [":rollback-on-error"] else []) := by
  cases eop with
  | none => exact .pure ⟨.nil, nofun, .ite nofun⟩
  | some e =>
    exact validateArg_spec.bind fun _ hv => assertIf_spec.bind fun _ ha => (leaf_spec e (nc_valid (by decide))).bind fun _ hl =>
      .pure ⟨hl, fun _ h => Option.some.inj h ▸ hv, .ite fun h => .cons (ha (decide_eq_true (Option.some.inj h))) .nil⟩

theorem rootIsConfig_name {c : XNode} (h : rootIsConfig c = true) : nameOf c = some (nc "config") ∨ nameOf c = some (s "config") := by
  cases c <;> simp_all [rootIsConfig, nameOf]

theorem configPart_spec (has : Str → Bool) (config : Config) (hcfg : A → ∀ c, config = .xml c → Good c) :
    Ok (configPart has config) fun l => Params A [nc "config", s "config", nc "config-text", nc "url"] l ∧
      -- `generalizing := false`: or the match takes `hcfg`, which mentions `config`, into its motive
      Sat has (match (generalizing := false) config with | .url _ _ => [":url"] | _ => []) := by
  cases config with
  | xml c => exact .ite (fun h => .pure ⟨(Params.either (rootIsConfig_name h) (hcfg · c rfl)).mono (by simp), .nil⟩) fun _ => .error
  | text t =>
    exact (leaf_spec t (nc_valid (by decide))).bind fun _ hl => .pure ⟨(hl.el (nc_valid (by decide))).param.mono (by simp), .nil⟩
  | url u ok =>
    exact .ite (fun _ => assertCap_spec.bind fun _ ha => (leaf_spec u valid_url).bind fun _ hl =>
      .pure ⟨hl.mono (by simp), .cons ha .nil⟩) fun _ => .error

theorem editConfig_spec (has : Str → Bool) (config : Config) (target : Str) (dop top eop : Option Str)
    (hcfg : A → ∀ c, config = .xml c → Good c) : Ok (editConfig has config target dop top eop) fun t =>
    Built A (rfcOrder (.edit config target dop top eop)) t ∧ Sat has (required (.edit config target dop top eop)) ∧
    (∀ d, dop = some d → ∃ a ∈ enumDo, s a = d) ∧ (∀ x, top = some x → ∃ a ∈ enumTo, s a = x) ∧
    ∀ e, eop = some e → ∃ a ∈ enumEo, s a = e :=
  (datastoreOrUrl_spec has target valid_target).bind fun _ hT => (defaultOpPart_spec dop).bind fun _ hD =>
    (testOptPart_spec has top).bind fun _ hTo => (errorOptPart_spec has eop).bind fun _ hE =>
      (configPart_spec has config hcfg).bind fun _ hC =>
        .pure ⟨((((hT.1.append hD.1).append hTo.1).append hE.1).append hC.1).el (nc_valid (by decide)),
          ((hT.2.1.append hTo.2.2).append hE.2.2).append hC.2, hD.2, hTo.2.1, hE.2.1⟩

theorem confirmedPart_spec (has : Str → Bool) (confirmed : Bool) (timeout persist : Option Str) :
    Ok (confirmedPart has confirmed timeout persist) fun l =>
      Params A [nc "confirmed", nc "confirm-timeout", nc "persist"] l ∧ Sat has (if confirmed then [":confirmed-commit"] else []) := by
  unfold confirmedPart
  split
  · exact assertCap_spec.bind fun _ ha => (optLeaf_spec timeout (nc_valid (by decide))).bind fun _ ht =>
      (optLeaf_spec persist (nc_valid (by decide))).bind fun _ hp =>
        .pure ⟨((Params.bare (nc_valid (by decide))).append ht).append hp, .cons ha .nil⟩
  · exact .pure ⟨.nil, .nil⟩

theorem commit_spec (has : Str → Bool) (confirmed : Bool) (timeout persist pid : Option Str) :
    Ok (commit has confirmed timeout persist pid) fun t =>
      Built A (rfcOrder (.commit confirmed timeout persist pid)) t ∧ Sat has (required (.commit confirmed timeout persist pid)) :=
  assertCap_spec.bind fun _ ha => Ok.unless.bind fun _ _ =>
    (confirmedPart_spec has confirmed timeout persist).bind fun _ hc =>
      (Ok.ite (fun _ => optLeaf_spec pid (nc_valid (by decide))) fun _ => .pure .nil).bind fun _ hp =>
        .pure ⟨(hc.1.append hp).el (nc_valid (by decide)), .cons ha hc.2⟩

theorem lockOp_spec {name : String} (target : Str) (hn : validName (nc name) = true) :
    Ok (lockOp name target) (Built A [nc "target"]) :=
  (named_spec target).bind fun _ ⟨hd, hv⟩ => .pure (hd ▸ ((Params.bare hv).el valid_target).param.el hn)

/-- What every call builds: an element whose parameter elements are those RFC 6241 defines for the call, each at most once
    and in its order; well-formed if the configuration the caller handed in is; and built only if the server has every
    capability the arguments depend on. -/
theorem build_spec (has : Str → Bool) (call : Call) : Ok (build has call) fun t =>
    Built (∀ c tg d to e, call = .edit (.xml c) tg d to e → Good c) (rfcOrder call) t ∧ Sat has (required call) := by
  cases call with
  | edit c tg d to e => exact (editConfig_spec has c tg d to e fun h c' hc => h c' tg d to e (hc ▸ rfl)).mono fun _ h => ⟨h.1, h.2.1⟩
  | lock tg => exact (lockOp_spec tg (nc_valid (by decide))).mono fun _ h => ⟨h, .nil⟩
  | unlock tg => exact (lockOp_spec tg (nc_valid (by decide))).mono fun _ h => ⟨h, .nil⟩
  | getConfig src =>
    exact (datastoreOrUrl_spec has src valid_source).bind fun _ hx => .pure ⟨hx.1.el (nc_valid (by decide)), hx.2.1⟩
  | delete tg =>
    exact (datastoreOrUrl_spec has tg valid_target).bind fun _ hx => .pure ⟨hx.1.el (nc_valid (by decide)), hx.2.1⟩
  | copy src tg =>
    exact (datastoreOrUrl_spec has tg valid_target).bind fun _ hx => (datastoreOrUrl_spec has src valid_source).bind fun _ hy =>
      .pure ⟨(hx.1.append hy.1).el (nc_valid (by decide)), hx.2.1.append hy.2.1⟩
  | validate src =>
    exact assertCap_spec.bind fun _ ha => (datastoreOrUrl_spec has src valid_source).bind fun _ hx =>
      .pure ⟨hx.1.el (nc_valid (by decide)), .cons ha hx.2.1⟩
  | commit c tm p pid => exact commit_spec has c tm p pid
  | cancel pid =>
    exact assertCap_spec.bind fun _ ha => assertCap_spec.bind fun _ hb => (optLeaf_spec pid (nc_valid (by decide))).bind fun _ hp =>
      .pure ⟨hp.el (nc_valid (by decide)), .cons ha (.cons hb .nil)⟩
  | discard => exact assertCap_spec.bind fun _ ha => .pure ⟨Params.nil.el (nc_valid (by decide)), .cons ha .nil⟩
  | kill sid => exact (leaf_spec sid (nc_valid (by decide))).bind fun _ hx => .pure ⟨hx.el (nc_valid (by decide)), .nil⟩
  | close => exact .pure ⟨Params.nil.el (nc_valid (by decide)), .nil⟩

/-- Every call that is built is a well-formed element, and every documented dependency of its arguments holds. -/
theorem build_ok (has : Str → Bool) (call : Call) (t : XNode)
    (hcfg : ∀ c tg d to e, call = .edit (.xml c) tg d to e → Good c)
    (h : build has call = .ok t) : Good t ∧ ∀ cap ∈ required call, has (s cap) = true :=
  have h' := build_spec has call t h
  ⟨h'.1.2 hcfg, h'.2⟩

end NcVerif.BuildersP
