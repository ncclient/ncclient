/-
  Lemmas about Model/Basic: `hasSub` as the library's infix relation, `findSub` against `hasSub` and at a first
  occurrence, `splitOn` by its first piece, `pyStrip` past a leading blank.
-/
import NcVerif.Model.Basic

namespace NcVerif

theorem hasSub_iff_infix {α} [BEq α] [LawfulBEq α] {d s : List α} : hasSub d s = true ↔ d <:+: s := by
  induction s with
  | nil => simp [hasSub]
  | cons x xs ih => simp [hasSub, List.infix_cons_iff, ih]

theorem hasSub_eq_isSome {α} [BEq α] (d s : List α) : hasSub d s = (findSub d s).isSome := by
  induction s with
  | nil => simp only [hasSub, findSub]; split <;> simp_all
  | cons x xs ih => simp only [hasSub, findSub]; split <;> simp_all

theorem findSub_eq_none_iff {α} [BEq α] {d s : List α} : findSub d s = none ↔ hasSub d s = false := by
  rw [hasSub_eq_isSome]; simp

section Sub
variable {α : Type} [BEq α] [LawfulBEq α]

theorem isPrefixOf_append_of_le (d a r : List α) (h : d.length ≤ a.length) :
    d.isPrefixOf (a ++ r) = d.isPrefixOf a := by
  rw [Bool.eq_iff_iff, List.isPrefixOf_iff_prefix, List.isPrefixOf_iff_prefix]
  exact ⟨fun h' => List.prefix_of_prefix_length_le h' (List.prefix_append a r) h,
    List.prefix_append_of_prefix⟩

theorem findSub_append_rest_iff (d p rest : List α) :
    findSub d (p ++ d ++ rest) = some p.length ↔ findSub d (p ++ d) = some p.length := by
  induction p with
  | nil => cases d <;> cases rest <;> simp [findSub]
  | cons x p ih =>
    have := isPrefixOf_append_of_le d (x :: (p ++ d)) rest (by simp; omega)
    simp only [List.cons_append, List.append_assoc] at this ih ⊢
    simp only [findSub, this]
    split
    · simp
    · simpa using ih

theorem findSub_some_split (d s : List α) (i : Nat) (h : findSub d s = some i) :
    ∃ p rest, s = p ++ d ++ rest ∧ findSub d (p ++ d) = some p.length := by
  suffices ∃ p rest, s = p ++ d ++ rest ∧ p.length = i by
    obtain ⟨p, rest, rfl, rfl⟩ := this
    exact ⟨p, rest, rfl, (findSub_append_rest_iff d p rest).mp h⟩
  induction s generalizing i with
  | nil =>
    simp only [findSub] at h
    split at h
    · rename_i hd
      exact ⟨[], [], by simpa using hd, by simpa using h⟩
    · simp at h
  | cons x xs ih =>
    simp only [findSub] at h
    split at h
    · rename_i hp
      obtain ⟨r, hr⟩ := List.isPrefixOf_iff_prefix.mp hp
      exact ⟨[], r, by simpa using hr.symm, by simpa using h⟩
    · simp only [Option.map_eq_some_iff] at h
      obtain ⟨j, hj, rfl⟩ := h
      obtain ⟨p, rest, hs, hl⟩ := ih j hj
      exact ⟨x :: p, rest, by simp [hs], by simp [hl]⟩

end Sub

theorem pyStrip_cons_ws {c : Char} (cs : Str) (h : isPyWs c = true) : pyStrip (c :: cs) = pyStrip cs := by
  simp [pyStrip, stripBy, lstripBy, List.dropWhile, h]

theorem snoc_induction {α} {P : List α → Prop} (nil : P []) (snoc : ∀ l a, P l → P (l ++ [a])) : ∀ l, P l := by
  intro l
  rw [← List.reverse_reverse l]
  induction l.reverse with
  | nil => exact nil
  | cons a l ih => rw [List.reverse_cons]; exact snoc _ a ih

section splitOn
variable {α} [DecidableEq α] (c : α)

theorem splitOn_no_sep {a : List α} (h : c ∉ a) : splitOn c a = [a] := by
  induction a with
  | nil => rfl
  | cons x xs ih =>
    rw [List.mem_cons, not_or] at h
    simp [splitOn, Ne.symm h.1, ih h.2]

theorem splitOn_append_sep {a : List α} (b : List α) (h : c ∉ a) :
    splitOn c (a ++ c :: b) = a :: splitOn c b := by
  induction a with
  | nil => simp [splitOn]
  | cons x xs ih =>
    rw [List.mem_cons, not_or] at h
    simp [splitOn, Ne.symm h.1, ih h.2]

theorem splitOn_cons_inv {l h : List α} {t : List (List α)} (e : splitOn c l = h :: t) :
    c ∉ h ∧ ((t = [] ∧ l = h) ∨ (∃ l', l = h ++ c :: l' ∧ splitOn c l' = t)) := by
  by_cases hc : c ∈ l
  · obtain ⟨a, b, rfl, ha⟩ := List.eq_append_cons_of_mem hc
    rw [splitOn_append_sep c b ha] at e
    cases e
    exact ⟨ha, .inr ⟨b, rfl, rfl⟩⟩
  · rw [splitOn_no_sep c hc] at e
    cases e
    exact ⟨hc, .inl ⟨rfl, rfl⟩⟩

theorem splitOn_head_iff {l h : List α} :
    (∃ t, splitOn c l = h :: t) ↔
      c ∉ h ∧ ∃ rest, (rest = [] ∨ ∃ r, rest = c :: r) ∧ l = h ++ rest := by
  constructor
  · rintro ⟨t, e⟩
    obtain ⟨hh, ⟨-, rfl⟩ | ⟨l', rfl, -⟩⟩ := splitOn_cons_inv c e
    · exact ⟨hh, [], .inl rfl, by simp⟩
    · exact ⟨hh, _, .inr ⟨_, rfl⟩, rfl⟩
  · rintro ⟨hh, _, rfl | ⟨r, rfl⟩, rfl⟩
    · exact ⟨[], by rw [List.append_nil, splitOn_no_sep c hh]⟩
    · exact ⟨_, splitOn_append_sep c r hh⟩

theorem splitOn_head_takeWhile (l : List α) : ∃ t, splitOn c l = l.takeWhile (· ≠ c) :: t := by
  fun_induction splitOn c l <;> simp_all

end splitOn

end NcVerif
