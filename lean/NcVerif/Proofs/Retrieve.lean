/- Model/Retrieve in the calculus of Proofs/Builders: one specification per part, `build_spec` for all calls. -/
import NcVerif.Model.Retrieve
import NcVerif.Proofs.Builders
namespace NcVerif.RetrieveP
open NcVerif NcVerif.XmlDoc NcVerif.XmlText NcVerif.Builders NcVerif.BuildersP NcVerif.XmlDocP NcVerif.Retrieve

variable {A : Prop}

/-- The caller's own trees inside a filter are well-formed elements. -/
def FilterGood : Option Filter → Prop
  | some (.subtree c) => Good c
  | some (.subtrees cs) => ∀ c ∈ cs, Good c
  | some (.element e) => Good e
  | _ => True

theorem rootIsFilter_name {e : XNode} (h : rootIsFilter e = true) : nameOf e = some (nc "filter") ∨ nameOf e = some (s "filter") := by
  cases e <;> simp_all [rootIsFilter, nameOf]

theorem rootIsSource_name {e : XNode} (h : rootIsSource e = true) : nameOf e = some (nc "source") ∨ nameOf e = some (s "source") := by
  cases e <;> simp_all [rootIsSource, nameOf]

theorem valid_filter : validName (nc "filter") = true := nc_valid (by decide)
theorem valid_type : validName (s "type") = true := s_valid (by decide)

theorem subtree_params {cs : List XNode} (h : A → ∀ c ∈ cs, Good c) :
    Params A [nc "filter", s "filter"] [.elem (nc "filter") [(s "type", s "subtree")] cs] :=
  ((Params.ofGood h).elem (wf_oneAttr _ valid_filter valid_type)).param.mono (by simp)

theorem filterPart_spec (f : Option Filter) (hf : A → FilterGood f) : Ok (filterPart f) (Params A [nc "filter", s "filter"]) := by
  match f with
  | none => exact .pure .nil
  | some (.xpath sel) =>
    have h0 : wf (.elem (nc "filter") [(s "type", s "xpath"), (s "select", sel)] []) = true := by
      have hs : validName (s "select") = true := s_valid (by decide)
      have hd : s "type" ≠ s "select" := by rw [s_ofList, s_ofList]; decide
      simp [wf, wfList, valid_filter, valid_type, hs, hd]
    exact .ite (fun _ => .pure ((Params.nil.elem (o := []) h0).param.mono (by simp))) fun _ => .error
  | some (.subtree c) => exact .pure (subtree_params fun a x hx => List.mem_singleton.1 hx ▸ hf a)
  | some (.subtrees cs) => exact .pure (subtree_params hf)
  | some (.other t) => exact .error
  | some (.element e) => exact .ite (fun h => .pure (.either (rootIsFilter_name h) hf)) fun _ => .error

theorem nsLeaf_spec (ns : Str) (name : String) (t : Str) : Ok (nsLeaf ns name t) fun x =>
    x = .elem (s "ns0:" ++ s name) [(s "xmlns:ns0", ns)] (if t.isEmpty then [] else [.text t]) :=
  .ite (fun _ => .pure rfl) fun _ => .error

theorem valid_ns0 : validName (s "ns0:") = true := s_valid (by decide)
theorem valid_xmlns_ns0 : validName (s "xmlns:ns0") = true := s_valid (by decide)

theorem has_of_gate_none {caps : Caps.Caps} {mode : Str} (h : Ops.withDefaultsGate caps mode = none) : has caps (s ":with-defaults") = true := by
  unfold Ops.withDefaultsGate at h
  split at h
  · cases h
  · rename_i hc
    exact (by simpa using hc : Caps.contains caps Ops.kWithDefaults = true)

/-- The second component: the mode passed the server's own list; the third is the mode's share of `required`. -/
theorem withDefaultsPart_spec (caps : Caps.Caps) (wd : Option Str) : Ok (withDefaultsPart caps wd) fun l =>
    Params A [s "ns0:with-defaults"] l ∧ (∀ mode, wd = some mode → Ops.withDefaultsGate caps mode = none) ∧
    Sat (has caps) (if wd.isSome then [":with-defaults"] else []) := by
  cases wd with
  | none => exact .pure ⟨.nil, nofun, .nil⟩
  | some mode =>
    simp only [withDefaultsPart]
    split
    · exact .error
    · exact .error
    · rename_i hg
      have hn : s "ns0:with-defaults" = s "ns0:" ++ s "with-defaults" := by rw [s_ofList, s_ofList, s_ofList]; rfl
      exact (nsLeaf_spec wdNs "with-defaults" mode).bind fun _ hl => .pure
        ⟨hl ▸ (Params.text mode (wf_oneAttr _ (pfx_valid valid_ns0 (by decide)) valid_xmlns_ns0)).mono (hn ▸ .refl _),
          fun _ h => Option.some.inj h ▸ hg,
          .cons (has_of_gate_none hg) .nil⟩

/-- Children of the subscription element: the declaration of `nsLeaf` is dropped. -/
theorem nsOpt_spec {name : String} (o : Option Str) (hn : validName (s "ns0:" ++ s name) = true) :
    Ok (nsOpt name o) (Params A [s "ns0:" ++ s name]) := by
  cases o with
  | none => exact .pure .nil
  | some t => exact (nsLeaf_spec notifNs name t).bind fun _ hl => hl ▸ .pure (.text t (wf_bare hn))

theorem sourcePart_spec (caps : Caps.Caps) (src : Option Str) : Ok (sourcePart caps src) fun l =>
    Params A [nc "source"] l ∧ Sat (has caps) (optUrlCap src) := by
  cases src with
  | none => exact .pure ⟨.nil, .nil⟩
  | some loc => exact (datastoreOrUrl_spec (has caps) loc valid_source).bind fun _ h => .pure ⟨h.1, h.2.1⟩

theorem targetPart_spec (caps : Caps.Caps) (tg : Option Str) : Ok (targetPart caps tg) fun l =>
    Params A [nc "target"] l ∧ Sat (has caps) (optUrlCap tg) := by
  cases tg with
  | none => exact .pure ⟨.nil, .nil⟩
  | some loc => exact (datastoreOrUrl_spec (has caps) loc valid_target).bind fun _ h => .pure ⟨h.1, h.2.1⟩

theorem pfxLeaf_spec {pfx name : String} (t : Str) (hn : validName (s pfx ++ s name) = true) :
    Ok (pfxLeaf pfx name t) fun x => Params A [s pfx ++ s name] [x] :=
  .ite (fun _ => .pure (.text t (wf_bare hn))) fun _ => .error

theorem optPfxLeaf_spec {pfx name : String} (o : Option Str) (hn : validName (s pfx ++ s name) = true) :
    Ok (optPfxLeaf pfx name o) (Params A [s pfx ++ s name]) := by
  cases o with
  | none => exact .pure .nil
  | some t => exact (pfxLeaf_spec t hn).bind fun _ h => .pure h

theorem configElPart_spec (o : Option XNode) (hg : A → ∀ c, o = some c → Good c) :
    Ok (configElPart o) (Params A [nc "config", s "config"]) := by
  cases o with
  | none => exact .pure .nil
  | some c => exact .ite (fun h => .pure (.either (rootIsConfig_name h) (hg · c rfl))) fun _ => .error

theorem power_spec (caps : Caps.Caps) {name : String} (capUri : String) (hn : validName (s "ns0:" ++ s name) = true) :
    Ok (power caps name capUri) fun t => Built A [] t ∧ Sat (has caps) [capUri] :=
  assertCap_spec.bind fun _ ha => .pure ⟨Params.nil.elem (wf_oneAttr _ hn valid_xmlns_ns0), .cons ha .nil⟩

/-- The parameter elements RFC 6241 / 6243 / 5277 define for each retrieval call, in their order (both spellings of a
    caller-made `<filter>` / `<config>` root listed). -/
def rfcOrder : Retrieve.Call → List Str
  | .get _ _ => [nc "filter", s "filter", s "ns0:with-defaults"]
  | .getConfig _ _ _ => [nc "source", nc "filter", s "filter", s "ns0:with-defaults"]
  | .dispatch _ _ _ => [nc "source", nc "filter", s "filter"]
  | .rpc _ _ _ _ _ => [nc "target", nc "source", nc "filter", s "filter", nc "config", s "config"]
  | .subscribe _ _ _ _ => [nc "filter", s "filter", s "ns0:" ++ s "stream", s "ns0:" ++ s "startTime", s "ns0:" ++ s "stopTime"]
  | .getSchema _ _ _ => [s "ncm:" ++ s "identifier", s "ncm:" ++ s "version", s "ncm:" ++ s "format"]
  | .validateEl _ => [nc "source"]
  | .copyEl _ _ => [nc "target", nc "source", s "source"]
  | .poweroff => []
  | .reboot => []

theorem valid_ncm : validName (s "ncm:") = true := s_valid (by decide)

/-- What every retrieval call builds: an element whose parameter elements are those the protocol defines for the call, each at
    most once and in its order; well-formed if the trees the caller handed in are; built only if the server has every
    capability the arguments depend on and lists the with-defaults mode. -/
theorem build_spec (caps : Caps.Caps) (call : Retrieve.Call) : Ok (Retrieve.build caps call) fun t =>
    Built (FilterGood (filterOf call) ∧ ∀ e ∈ elemArgs call, Good e) (rfcOrder call) t ∧ Sat (has caps) (Retrieve.required call) ∧
    ∀ mode, wdOf call = some mode → Ops.withDefaultsGate caps mode = none := by
  cases call with
  | getSchema i v f =>
    exact (pfxLeaf_spec i (pfx_valid valid_ncm (by decide))).bind fun _ hi =>
      (optPfxLeaf_spec v (pfx_valid valid_ncm (by decide))).bind fun _ hv =>
        (optPfxLeaf_spec f (pfx_valid valid_ncm (by decide))).bind fun _ hf =>
          .pure ⟨((hi.append hv).append hf).elem (wf_oneAttr _ (s_valid (by decide)) (s_valid (by decide))), .nil, nofun⟩
  | rpc cmd tg src f cfg =>
    exact (named_spec cmd).bind fun _ ⟨hr, hv⟩ => (targetPart_spec caps tg).bind fun _ ht => (sourcePart_spec caps src).bind fun _ hs =>
      (filterPart_spec f And.left).bind fun _ hf =>
        (configElPart_spec cfg fun a c hc => a.2 c (by simp [elemArgs, hc])).bind fun _ hc =>
          hr ▸ .pure ⟨(((ht.1.append hs.1).append hf).append hc).el hv, ht.2.append hs.2, nofun⟩
  | poweroff => exact (power_spec caps poweroffCap (pfx_valid valid_ns0 (by decide))).mono fun _ h => ⟨h.1, h.2, nofun⟩
  | reboot => exact (power_spec caps rebootCap (pfx_valid valid_ns0 (by decide))).mono fun _ h => ⟨h.1, h.2, nofun⟩
  | validateEl cfg =>
    exact assertCap_spec.bind fun _ ha => .ite (fun _ => .pure
      ⟨((Params.ofGood And.right).el valid_source).param.el (nc_valid (by decide)), .cons ha .nil, nofun⟩) fun _ => .error
  | copyEl tg src =>
    exact (datastoreOrUrl_spec (has caps) tg valid_target).bind fun _ ht => .ite (fun h => .pure
      ⟨(ht.1.append (.either (rootIsSource_name h) (·.2 src List.mem_cons_self))).el (nc_valid (by decide)), ht.2.1, nofun⟩) fun _ => .error
  | get f w =>
    exact (filterPart_spec f And.left).bind fun _ hf => (withDefaultsPart_spec caps w).bind fun _ hw =>
      .pure ⟨(hf.append hw.1).el (nc_valid (by decide)), hw.2.2, hw.2.1⟩
  | getConfig src f w =>
    exact (datastoreOrUrl_spec (has caps) src valid_source).bind fun _ hs => (filterPart_spec f And.left).bind fun _ hf =>
      (withDefaultsPart_spec caps w).bind fun _ hw =>
        .pure ⟨((hs.1.append hf).append hw.1).el (nc_valid (by decide)), hs.2.1.append hw.2.2, hw.2.1⟩
  | dispatch cmd src f =>
    exact (named_spec cmd).bind fun _ ⟨hr, hv⟩ => (sourcePart_spec caps src).bind fun _ hs => (filterPart_spec f And.left).bind fun _ hf =>
      hr ▸ .pure ⟨(hs.1.append hf).el hv, hs.2, nofun⟩
  | subscribe f a b c =>
    exact assertCap_spec.bind fun _ ha => (filterPart_spec f And.left).bind fun _ hf =>
      (nsOpt_spec a (pfx_valid valid_ns0 (by decide))).bind fun _ h1 => (nsOpt_spec b (pfx_valid valid_ns0 (by decide))).bind fun _ h2 =>
        Ok.unless.bind fun _ _ => (nsOpt_spec c (pfx_valid valid_ns0 (by decide))).bind fun _ h3 =>
          .pure ⟨(((hf.append h1).append h2).append h3).elem (wf_oneAttr _ (s_valid (by decide)) valid_xmlns_ns0), .cons ha .nil, nofun⟩

/-- Every retrieval call that is built is a well-formed element; every documented dependency of its arguments holds; and
    a with-defaults mode passed the validation against the modes the server's capability URI lists. -/
theorem build_ok (caps : Caps.Caps) (call : Retrieve.Call) (t : XNode) (hf : FilterGood (filterOf call))
    (he : ∀ e ∈ elemArgs call, Good e) (h : Retrieve.build caps call = .ok t) :
    Good t ∧ (∀ cap ∈ Retrieve.required call, has caps (s cap) = true) ∧ ∀ mode, wdOf call = some mode → Ops.withDefaultsGate caps mode = none :=
  have h' := build_spec caps call t h
  ⟨h'.1.2 ⟨hf, he⟩, h'.2⟩

end NcVerif.RetrieveP
