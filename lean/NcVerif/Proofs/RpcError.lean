/-
  Helper lemmas about Model/RpcError: the exemption test against the pattern grammar, and the raise
  block of `_request` with its guard as a proposition.
-/
import NcVerif.Proofs.Basic
import NcVerif.Model.RpcError
namespace NcVerif.RpcErrorP
open NcVerif NcVerif.RpcError

theorem hasSub_iff {α} [BEq α] [LawfulBEq α] (p s : List α) :
    hasSub p s = true ↔ ∃ a b, s = a ++ p ++ b :=
  hasSub_iff_infix.trans (exists_congr fun _ => exists_congr fun _ => eq_comm)

theorem isSuffixOf_iff {α} [BEq α] [LawfulBEq α] (p s : List α) :
    p.isSuffixOf s = true ↔ ∃ a, s = a ++ p :=
  List.isSuffixOf_iff_suffix.trans (exists_congr fun _ => eq_comm)

theorem isPrefixOf_iff {α} [BEq α] [LawfulBEq α] (p s : List α) :
    p.isPrefixOf s = true ↔ ∃ b, s = p ++ b :=
  List.isPrefixOf_iff_prefix.trans (exists_congr fun _ => eq_comm)

/-- Copy of `C06.Matches` (that file imports this one); definitionally the same. -/
def Matches (pat : Str) (text : Str) : Prop :=
  let p := lowerAscii pat
  if p.head? = some '*' ∧ p.getLast? = some '*' then ∃ a b, text = a ++ dropLast (p.drop 1) ++ b
  else if p.head? = some '*' then ∃ a, text = a ++ p.drop 1
  else if p.getLast? = some '*' then ∃ b, text = dropLast p ++ b
  else text = p

def textOf (msg : Option Str) : Str :=
  match msg with | some m => pyStrip (lowerAscii m) | none => noErrorGiven

theorem isExempt_eq (p : Patterns) (msg : Option Str) :
    isExempt p msg =
      (p.exact.any (fun ex => decide (textOf msg = ex)) ||
       p.startWild.any (fun ex => ex.isSuffixOf (textOf msg)) ||
       p.endWild.any (fun ex => ex.isPrefixOf (textOf msg)) ||
       p.fullWild.any (fun ex => hasSub ex (textOf msg))) := by
  cases msg <;> rfl

/-- One more pattern: it lands in the table of its shape, and that table's test is the pattern's
    clause of `Matches`. -/
theorem isExempt_addPattern (acc : Patterns) (raw : Str) (msg : Option Str) :
    isExempt (addPattern acc raw) msg = true ↔ isExempt acc msg = true ∨ Matches raw (textOf msg) := by
  simp only [isExempt_eq, addPattern, Matches]
  by_cases h1 : (lowerAscii raw).head? = some '*' <;> by_cases h2 : (lowerAscii raw).getLast? = some '*' <;>
    simp only [h1, h2, if_true, if_false, and_self, and_false, false_and, List.any_append, List.any_cons,
      List.any_nil, Bool.or_false, Bool.or_eq_true, hasSub_iff, isSuffixOf_iff, isPrefixOf_iff,
      decide_eq_true_eq]
  -- what is left differs only in where the new disjunct stands among the four tables'
  all_goals exact Iff.of_eq (by ac_rfl)

theorem isExempt_foldl (pats : List Str) (acc : Patterns) (msg : Option Str) :
    isExempt (pats.foldl addPattern acc) msg = true ↔
      isExempt acc msg = true ∨ ∃ p ∈ pats, Matches p (textOf msg) := by
  induction pats generalizing acc with
  | nil => simp
  | cons p ps ih =>
    simp only [List.foldl_cons, ih, isExempt_addPattern, List.mem_cons, exists_eq_or_imp, or_assoc]

theorem exempt_spec (pats : List Str) (msg : Option Str) :
    isExempt (mkPatterns pats) msg = true ↔ ∃ p ∈ pats, Matches p (textOf msg) := by
  rw [mkPatterns, isExempt_foldl]
  simp [isExempt_eq]

theorem raises_eq (mode : Mode) (p : Patterns) (r : Reply) :
    raises mode p r =
      if ∃ e ∈ errors r, isExempt p e.message = false ∧
          (mode = .all ∨ (mode = .errors ∧
            ∃ e' ∈ errors r, isExempt p e'.message = false ∧ e'.severity = some sevError)) then
        match errors r with
        | [e] => some (.single e)
        | _ => some (.aggregate (errors r) (aggregateSeverity (errors r)))
      else none := by
  simp only [raises, Bool.and_eq_true, Bool.or_eq_true, Bool.not_eq_true',
    List.isEmpty_eq_false_iff_exists_mem, List.mem_filter, List.any_eq_true, decide_eq_true_eq,
    and_assoc, exists_and_right.symm]
  -- the same `if` on both sides, up to the `Decidable` instance
  congr

theorem raises_isSome (mode : Mode) (p : Patterns) (r : Reply) :
    (raises mode p r).isSome = true ↔
      ∃ e ∈ errors r, isExempt p e.message = false ∧
        (mode = .all ∨ (mode = .errors ∧
          ∃ e' ∈ errors r, isExempt p e'.message = false ∧ e'.severity = some sevError)) := by
  rw [raises_eq]
  split <;> rename_i h
  · exact iff_of_true (by split <;> rfl) h
  · exact iff_of_false (by simp) h

theorem aggregateSeverity_eq_error (errs : List Err) :
    aggregateSeverity errs = sevError ↔ ∃ e ∈ errs, e.severity = some sevError := by
  unfold aggregateSeverity
  split <;> rename_i h
  · simpa using h
  · simpa [show sevWarning ≠ sevError by decide +kernel] using h

theorem aggregateSeverity_cases (errs : List Err) :
    aggregateSeverity errs = sevError ∨ aggregateSeverity errs = sevWarning := by
  unfold aggregateSeverity
  split <;> simp

end NcVerif.RpcErrorP
