/-
  The regenerated profile table `Gen.profiles`: the base URI (C05 and C16 share it), and `Isolation.resolve` on
  arbitrary tables, so that C16 evaluates only what is particular to the table.
-/
import NcVerif.Spec.Profiles
import NcVerif.Model.Isolation
namespace NcVerif.ProfilesP
open NcVerif NcVerif.Gen NcVerif.ProfilesSpec NcVerif.Isolation

/-- The table supplies a base URI in a position the user's extras cannot displace; `clientCaps` keeps it. -/
theorem has_base (extra : List Str) : ∀ p ∈ profiles, ∃ u ∈ clientCaps p extra, isBaseUri u = true := by
  have h : ∀ p ∈ profiles, ∃ u ∈ p.capsPrefix ++ p.capsSuffix, isBaseUri u = true ∧
      (p.usesExtra = false → u ∈ p.capsPrefix) := by decide +kernel
  intro p hp
  obtain ⟨u, hu, hb, hfix⟩ := h p hp
  refine ⟨u, ?_, hb⟩
  unfold clientCaps
  split
  · simp only [List.mem_append] at hu ⊢
    exact hu.elim (fun h => .inl (.inl h)) .inr
  · exact hfix (Bool.eq_false_iff.2 ‹_›)

theorem lookup_of_mem {l : List (Str × Str)} (hnd : (l.map Prod.fst).Nodup) {kv : Str × Str} (h : kv ∈ l) :
    l.lookup kv.1 = some kv.2 := by
  induction l with
  | nil => cases h
  | cons a l ih =>
    rw [List.map_cons, List.nodup_cons] at hnd
    rw [List.lookup_cons]
    rcases List.mem_cons.1 h with rfl | h
    · simp
    · have hk : (kv.1 == a.1) = false := beq_false_of_ne fun e => hnd.1 (e ▸ List.mem_map_of_mem h)
      rw [hk]; exact ih hnd.2 h

theorem resolve_std_isSome (vendor : List (Str × Str)) {std : List (Str × Str)} {kv : Str × Str} (h : kv ∈ std) :
    (resolve vendor std kv.1).isSome = true := by
  unfold resolve
  split
  · rfl
  · exact List.lookup_isSome_iff.2 ⟨kv, h, beq_self_eq_true _⟩

theorem resolve_vendor {vendor : List (Str × Str)} (std : List (Str × Str)) (hnd : (vendor.map Prod.fst).Nodup)
    {kv : Str × Str} (h : kv ∈ vendor) : resolve vendor std kv.1 = some kv.2 := by
  simp [resolve, lookup_of_mem hnd h]

end NcVerif.ProfilesP
