/- Lemmas about Model/Xml: `replaceAttrs` on attributes that do not collide after renaming is a filter and an append;
   the reply transforms against `shape` and `hasNs`, by induction over trees. -/
import NcVerif.Model.Xml
namespace NcVerif.XmlP
open NcVerif NcVerif.Xml

theorem renameQ_name (old new : Option Str) (q : QName) : (renameQ old new q).name = q.name := by
  unfold renameQ; split <;> rfl

theorem renameQ_of_ns (old new : Option Str) (q : QName) (h : q.ns = old) : (renameQ old new q).ns = new := by
  unfold renameQ; rw [if_pos h]

theorem renameQ_of_not_ns (old new : Option Str) (q : QName) (h : q.ns ≠ old) : renameQ old new q = q := by
  unfold renameQ; rw [if_neg h]

/-- A fold that updates on a hit and appends otherwise, over elements none of which hits what is there or what
    an earlier one appends, only appends (`replaceAttrs` without colliding names). -/
theorem foldl_append_of_fresh {α β : Type} (hit : β → α → Bool) (upd : List β → α → List β) (f : α → β) :
    ∀ (l : List α) (acc : List β), (∀ a ∈ l, ∀ b ∈ acc, hit b a = false) → l.Pairwise (fun a a' => hit (f a) a' = false) →
      l.foldl (fun acc a => if acc.any (hit · a) then upd acc a else acc ++ [f a]) acc = acc ++ l.map f
  | [], acc, _, _ => (List.append_nil acc).symm
  | a :: l, acc, hacc, hl => by
    have hno : acc.any (hit · a) = false :=
      List.any_eq_false.2 fun b hb => by rw [hacc a List.mem_cons_self b hb]; exact Bool.false_ne_true
    rw [List.foldl_cons, hno, if_neg Bool.false_ne_true, foldl_append_of_fresh hit upd f l _ ?_ hl.of_cons,
      List.append_assoc]
    · rfl
    · intro a' ha' b hb
      rcases List.mem_append.1 hb with hb | hb
      · exact hacc a' (List.mem_cons_of_mem a ha') b hb
      · rw [List.mem_singleton.1 hb]
        exact List.rel_of_pairwise_cons hl ha'

theorem inj_of_nodup_map {α β : Type} (f : α → β) (l : List α) (h : (l.map f).Nodup) :
    ∀ a ∈ l, ∀ b ∈ l, f a = f b → a = b :=
  have hp : l.Pairwise fun a b => f a ≠ f b := List.pairwise_map.1 h
  List.Pairwise.forall_of_forall_of_flip (fun _ _ _ => rfl) (hp.imp fun hne he => absurd he hne)
    (hp.imp fun hne he => absurd he.symm hne)

theorem replaceAttrs_nocollide (old new : Option Str) (attrs : List (QName × Str))
    (hc : (attrs.map (fun a => renameQ old new a.1)).Nodup) :
    replaceAttrs old new attrs =
      attrs.filter (fun a => a.1.ns ≠ old) ++
        (attrs.filter (fun a => a.1.ns = old)).map (fun a => (renameQ old new a.1, a.2)) := by
  refine foldl_append_of_fresh (fun (b a : QName × Str) => decide (b.1 = renameQ old new a.1)) _ _ _ _ ?_ ?_
  -- a kept `b` with the new name of a moved `a` would, being its own renaming, collide with `a`
  · intro a ha b hb
    rw [List.mem_filter] at ha hb
    have hbns : b.1.ns ≠ old := of_decide_eq_true hb.2
    refine decide_eq_false fun heq => hbns ?_
    rw [inj_of_nodup_map _ attrs hc b hb.1 a ha.1 ((renameQ_of_not_ns old new b.1 hbns).trans heq)]
    exact of_decide_eq_true ha.2
  · exact ((List.pairwise_map.1 hc).filter _).imp fun hne => decide_eq_false fun he => hne he

theorem shapeList_append : ∀ (l₁ l₂ : List Node), shapeList (l₁ ++ l₂) = shapeList l₁ ++ shapeList l₂
  | [], _ => rfl
  | n :: ns, l₂ => by
    rw [List.cons_append, shapeList, shapeList, shapeList_append ns l₂, List.append_assoc]

theorem hasNsList_append : ∀ (l₁ l₂ : List Node), hasNsList (l₁ ++ l₂) = (hasNsList l₁ || hasNsList l₂)
  | [], _ => rfl
  | n :: ns, l₂ => by
    rw [List.cons_append, hasNsList, hasNsList, hasNsList_append ns l₂, Bool.or_assoc]

theorem shapeList_singleton (n : Node) : shapeList [n] = shape n := List.append_nil _

mutual
  theorem shapeList_stripNs : ∀ n : Node, shapeList (stripNs n) = shape n
    | .elem tag attrs children => by
      rw [stripNs, shapeList_singleton, shape, shape, List.map_map, shapeList_stripNsList children]
      rfl
    | .text s => by
      rw [stripNs, shape]
      split
      · rfl
      · rw [shapeList_singleton, shape, if_neg ‹_›]
    | .comment _ | .pi _ _ => rfl
  theorem shapeList_stripNsList : ∀ l : List Node, shapeList (stripNsList l) = shapeList l
    | [] => rfl
    | n :: ns => by
      rw [stripNsList, shapeList_append, shapeList_stripNs n, shapeList_stripNsList ns, shapeList]
end

mutual
  theorem hasNsList_stripNs : ∀ n : Node, hasNsList (stripNs n) = false
    | .elem tag attrs children => by
      rw [stripNs, hasNsList, hasNsList, hasNs, hasNsList_stripNsList children, List.any_map]
      simp [stripQ]
    | .text s => by
      rw [stripNs]
      split <;> rfl
    | .comment _ | .pi _ _ => rfl
  theorem hasNsList_stripNsList : ∀ l : List Node, hasNsList (stripNsList l) = false
    | [] => rfl
    | n :: ns => by
      rw [stripNsList, hasNsList_append, hasNsList_stripNs n, hasNsList_stripNsList ns]; rfl
end

mutual
  theorem shape_stripElemNs : ∀ n : Node, shape (stripElemNs n) = shape n
    | .elem tag attrs children => by
      rw [stripElemNs, shape, shape, shapeList_stripElemNsList children]; rfl
    | .text _ | .comment _ | .pi _ _ => rfl
  theorem shapeList_stripElemNsList : ∀ l : List Node, shapeList (stripElemNsList l) = shapeList l
    | [] => rfl
    | n :: ns => by
      rw [stripElemNsList, shapeList, shapeList, shape_stripElemNs n, shapeList_stripElemNsList ns]
end
end NcVerif.XmlP
