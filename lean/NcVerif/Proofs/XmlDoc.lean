/- The reader of Model/XmlDoc inverts the serialiser on well-formed trees (`parseNode_serialize`): each piece the serialiser
   writes (escaped text, quoted value, attribute list, start tag) is read back with what follows it left over. -/
import NcVerif.Model.XmlDoc
import NcVerif.Proofs.XmlText
import NcVerif.Proofs.Chars
namespace NcVerif.XmlDocP
open NcVerif NcVerif.XmlText NcVerif.XmlDoc NcVerif.XmlTextP

theorem takeName_append (n : Str) (c : Char) (r : Str)
    (hn : ∀ x ∈ n, isNameChar x = true) (hc : ¬isNameChar c = true) :
    takeName (n ++ c :: r) = (n, c :: r) := by
  rw [takeName, List.takeWhile_append_of_pos hn, List.dropWhile_append_of_pos hn,
    List.takeWhile_cons_of_neg hc, List.dropWhile_cons_of_neg hc, List.append_nil]

theorem isNameChar_of_isNameStart {c : Char} (h : isNameStart c = true) : isNameChar c = true := by
  simp only [isNameStart, isNameChar, Char.isAlphanum, Bool.or_eq_true] at h ⊢
  rcases h with h | h
  · simp only [h, true_or]
  · simp only [h, or_true, true_or]

theorem validName_all : ∀ {n : Str}, validName n = true → ∀ x ∈ n, isNameChar x = true
  | c :: cs, h, x, hx => by
    simp only [validName, Bool.and_eq_true, List.all_eq_true] at h
    rcases List.mem_cons.1 hx with rfl | hx
    · exact isNameChar_of_isNameStart h.1
    · exact h.2 x hx

theorem validName_append : ∀ {p n : Str}, validName p = true → (∀ x ∈ n, isNameChar x = true) → validName (p ++ n) = true
  | c :: cs, n, hp, hn => by
    simp only [List.cons_append, validName, List.all_append, Bool.and_eq_true, List.all_eq_true] at hp ⊢
    exact ⟨hp.1, hp.2, hn⟩

theorem validName_isEmpty : ∀ {n : Str}, validName n = true → n.isEmpty = false
  | _ :: _, _ => rfl

theorem readChars_writes {c : Char} {e : Str} (h : Writes textSpecial c e) (r : Str) (fuel : Nat) :
    readChars (fuel + 1) (e ++ r) = (readChars fuel r).map fun p => (c :: p.1, p.2) := by
  rcases h with he | ⟨hc, rfl⟩
  · obtain ⟨_, n, rfl, hn⟩ := refs_spec he
    simp only [List.cons_append, readChars, hn, Char.reduceEq, if_false, if_true]
  · simp only [textSpecial, List.mem_cons, List.not_mem_nil, or_false, not_or] at hc
    simp only [List.singleton_append, readChars, hc, if_false]

/-- Where `readChars` ends character data. -/
def Stop (stop : Str) : Prop := stop = [] ∨ ∃ r, stop = '<' :: r

theorem readChars_escapeText (s stop : Str) (hs : Stop stop) :
    ∀ fuel, fuel > (escapeText s ++ stop).length → readChars fuel (escapeText s ++ stop) = some (s, stop) := by
  induction s with
  | nil =>
    intro fuel h
    match fuel, h with
    | fuel + 1, _ => rcases hs with rfl | ⟨r, rfl⟩ <;> rfl
  | cons c s ih =>
    intro fuel h
    rw [escapeText_cons, List.append_assoc, List.length_append] at h
    have hpos := (escTextChar_writes c).length_pos
    match fuel, h with
    | fuel + 1, h =>
      rw [escapeText_cons, List.append_assoc, readChars_writes (escTextChar_writes c), ih fuel (by omega)]
      rfl

theorem escapeText_length_pos {s : Str} (hs : s ≠ []) : 1 ≤ (escapeText s).length := by
  match s, hs with
  | c :: s', _ =>
    rw [escapeText_cons, List.length_append]
    exact Nat.le_add_right_of_le (escTextChar_writes c).length_pos

theorem readQuoted_writes {c : Char} {e : Str} (h : Writes attrSpecial c e) (r : Str) (fuel : Nat) :
    readQuoted (fuel + 1) (e ++ r) = (readQuoted fuel r).map fun p => (c :: p.1, p.2) := by
  rcases h with he | ⟨hc, rfl⟩
  · obtain ⟨_, n, rfl, hn⟩ := refs_spec he
    simp only [List.cons_append, readQuoted, hn, Char.reduceEq, if_false, if_true]
  · simp only [attrSpecial, List.mem_cons, List.not_mem_nil, or_false, not_or] at hc
    simp only [List.singleton_append, readQuoted, hc, decide_false, Bool.or_self, Bool.false_eq_true, if_false]

theorem readQuoted_escapeAttr (v rest : Str) :
    ∀ fuel, fuel > (escapeAttr v ++ '"' :: rest).length → readQuoted fuel (escapeAttr v ++ '"' :: rest) = some (v, rest) := by
  induction v with
  | nil =>
    intro fuel h
    match fuel, h with
    | fuel + 1, _ => rfl
  | cons c v ih =>
    intro fuel h
    rw [escapeAttr_cons, List.append_assoc, List.length_append] at h
    have hpos := (escAttrChar_writes c).length_pos
    match fuel, h with
    | fuel + 1, h =>
      rw [escapeAttr_cons, List.append_assoc, readQuoted_writes (escAttrChar_writes c), ih fuel (by omega)]
      rfl

theorem serAttrs_nil : serAttrs [] = [] := rfl

theorem serAttrs_cons (a : Str × Str) (as : List (Str × Str)) (rest : Str) :
    serAttrs (a :: as) ++ rest = ' ' :: (a.1 ++ '=' :: '"' :: (escapeAttr a.2 ++ '"' :: (serAttrs as ++ rest))) := by
  simp only [serAttrs, List.flatMap_cons, List.cons_append, List.append_assoc, List.nil_append]

theorem readAttrs_serAttrs (attrs : List (Str × Str)) (hn : ∀ a ∈ attrs, validName a.1 = true)
    (c : Char) (r : Str) (hc : c ≠ ' ') :
    ∀ fuel, fuel > (serAttrs attrs ++ c :: r).length → readAttrs fuel (serAttrs attrs ++ c :: r) = some (attrs, c :: r) := by
  induction attrs with
  | nil =>
    intro fuel h
    match fuel, h with
    | fuel + 1, _ => rw [serAttrs_nil, List.nil_append, readAttrs]; exact fun _ h => hc (List.cons.inj h).1
  | cons a as ih =>
    intro fuel h
    match fuel, h with
    | fuel + 1, h =>
      have hname := hn a List.mem_cons_self
      have hq := readQuoted_escapeAttr a.2 (serAttrs as ++ c :: r) _ (Nat.lt_succ_self _)
      rw [serAttrs_cons] at h ⊢
      simp only [List.length_cons, List.length_append] at h
      simp only [readAttrs, takeName_append a.1 '=' _ (validName_all hname) (by decide),
        validName_isEmpty hname, hq, Bool.false_eq_true, if_false,
        ih (fun b hb => hn b (List.mem_cons_of_mem a hb)) fuel (by rw [List.length_append, List.length_cons]; omega)]
      rfl

theorem read_startTag (n : Str) (attrs : List (Str × Str)) (c : Char) (r : Str) (hn : validName n = true)
    (ha : ∀ a ∈ attrs, validName a.1 = true) (hc : c ≠ ' ') (hcn : ¬isNameChar c = true) :
    takeName (n ++ (serAttrs attrs ++ c :: r)) = (n, serAttrs attrs ++ c :: r) ∧
    readAttrs ((serAttrs attrs ++ c :: r).length + 1) (serAttrs attrs ++ c :: r) = some (attrs, c :: r) := by
  refine ⟨?_, readAttrs_serAttrs attrs ha c r hc _ (Nat.lt_succ_self _)⟩
  cases attrs with
  | nil => exact takeName_append n c r (validName_all hn) hcn
  | cons a as => rw [serAttrs_cons]; exact takeName_append n ' ' _ (validName_all hn) (by decide)

mutual
  /-- Fuel that `parseNode` needs for the serialisation of a tree; `parseNodes` hands what it has left both to the node
      and to the rest of the list, whence the `max`. -/
  def need : XNode → Nat
    | .elem _ _ cs => 1 + needList cs
    | .text _ => 1
  def needList : List XNode → Nat
    | [] => 1
    | x :: xs => 1 + max (need x) (needList xs)
end

def isText : XNode → Bool
  | .text _ => true
  | _ => false

theorem wf_elem_iff {n : Str} {attrs : List (Str × Str)} {cs : List XNode} :
    wf (.elem n attrs cs) = true ↔
      validName n = true ∧ (∀ a ∈ attrs, validName a.1 = true) ∧ (attrs.map (·.1)).Nodup ∧ wfList cs = true := by
  simp only [wf, Bool.and_eq_true, List.all_eq_true, decide_eq_true_eq, and_assoc]

theorem wf_text {s : Str} (h : wf (.text s) = true) : s ≠ [] := by
  rintro rfl
  exact absurd h (by decide)

theorem wfList_cons {x : XNode} {xs : List XNode} (h : wfList (x :: xs) = true) : wf x = true ∧ wfList xs = true := by
  cases xs with
  | nil => exact ⟨h, rfl⟩
  | cons y ys =>
    unfold wfList at h
    rw [Bool.and_eq_true, Bool.and_eq_true] at h
    exact ⟨h.1.1, h.2⟩

/-- After a text node comes a `<`: the next sibling is an element, or the parent's end tag follows. -/
theorem stop_after_text {x : XNode} {xs : List XNode} (hw : wfList (x :: xs) = true) (ht : isText x = true) (r : Str) :
    Stop (serializeList xs ++ '<' :: '/' :: r) := by
  match x, xs, ht, hw with
  | .text _, [], _, _ => exact .inr ⟨_, rfl⟩
  | .text _, .text _ :: _, _, hw => simp [wfList] at hw
  | .text _, .elem _ _ cs :: _, _, _ => cases cs <;> exact .inr ⟨_, rfl⟩

theorem parseNode_chars {inp t rest : Str} (h : ∀ fuel, fuel > inp.length → readChars fuel inp = some (t, rest))
    (ht : t ≠ []) (fuel : Nat) : parseNode (fuel + 1) inp = some (.text t, rest) := by
  match inp, t, ht, h with
  | [], _ :: _, _, h => cases h 1 (Nat.lt_succ_self 0)
  | c :: r, _ :: _, _, h =>
    have h' := h (r.length + 2) (Nat.lt_succ_self _)
    rw [parseNode, h']
    · rfl
    -- the input does not begin with `<`: there `readChars` reads no character
    · rintro rfl
      cases h'

theorem parseNode_elem (n : Str) (attrs : List (Str × Str)) (cs : List XNode) (rest : Str) (fuel : Nat)
    (hn : validName n = true) (ha : ∀ a ∈ attrs, validName a.1 = true)
    (hcs : ∀ r, parseNodes fuel (serializeList cs ++ '<' :: '/' :: r) = some (cs, '<' :: '/' :: r)) :
    parseNode (fuel + 1) (serialize (.elem n attrs cs) ++ rest) = some (.elem n attrs cs, rest) := by
  cases cs with
  | nil =>
    obtain ⟨h1, h2⟩ := read_startTag n attrs '/' ('>' :: rest) hn ha (by decide) (by decide)
    simp only [serialize, List.cons_append, List.append_assoc, List.nil_append, parseNode, h1, validName_isEmpty hn, h2]
    rfl
  | cons c cs =>
    obtain ⟨h1, h2⟩ := read_startTag n attrs '>' (serializeList (c :: cs) ++ '<' :: '/' :: (n ++ '>' :: rest)) hn ha
      (by decide) (by decide)
    simp only [serialize, List.cons_append, List.append_assoc, List.nil_append, parseNode, h1, validName_isEmpty hn, h2,
      hcs, takeName_append n '>' rest (validName_all hn) (by decide)]
    rfl

theorem parseNodes_of_parseNode {fuel : Nat} {s r : Str} {x : XNode} (h : parseNode fuel s = some (x, r)) :
    parseNodes (fuel + 1) s = (parseNodes fuel r).map fun p => (x :: p.1, p.2) := by
  rw [parseNodes]
  · rw [h]
  -- the input is neither empty nor an end tag: from those `parseNode` reads nothing
  · rintro rfl
    cases fuel <;> cases h
  · rintro r' rfl
    cases fuel <;> cases h

mutual
  theorem parseNode_serialize : ∀ (t : XNode), wf t = true → ∀ (rest : Str), (isText t = true → Stop rest) →
      ∀ fuel, fuel ≥ need t → parseNode fuel (serialize t ++ rest) = some (t, rest)
    | .text s, hw, rest, hstop, fuel + 1, _ => parseNode_chars (readChars_escapeText s rest (hstop rfl)) (wf_text hw) fuel
    | .elem _ _ cs, _, _, _, 0, hf => by rw [need] at hf; omega
    | .elem n attrs cs, hw, rest, _, fuel + 1, hf => by
      obtain ⟨hn, ha, _, hcs⟩ := wf_elem_iff.1 hw
      exact parseNode_elem n attrs cs rest fuel hn ha fun r =>
        parseNodes_serializeList cs hcs r fuel (by rw [need] at hf; omega)
  theorem parseNodes_serializeList : ∀ (xs : List XNode), wfList xs = true → ∀ (r : Str) (fuel : Nat), fuel ≥ needList xs →
      parseNodes fuel (serializeList xs ++ '<' :: '/' :: r) = some (xs, '<' :: '/' :: r)
    | [], _, r, fuel + 1, _ => by rw [serializeList, List.nil_append, parseNodes]
    | x :: xs, _, _, 0, hf => by rw [needList] at hf; omega
    | x :: xs, hw, r, fuel + 1, hf => by
      obtain ⟨hx, hxs⟩ := wfList_cons hw
      rw [needList] at hf
      rw [serializeList, List.append_assoc,
        parseNodes_of_parseNode (parseNode_serialize x hx _ (fun ht => stop_after_text hw ht r) fuel (by omega)),
        parseNodes_serializeList xs hxs r fuel (by omega)]
      rfl
end

theorem need_pos (t : XNode) : 1 ≤ need t := by
  cases t <;> rw [need] <;> omega

mutual
  /-- The reader's own fuel (input length + 2) always suffices. -/
  theorem need_le : ∀ (t : XNode), wf t = true → need t ≤ (serialize t).length
    | .text s, hw => escapeText_length_pos (wf_text hw)
    | .elem n attrs [], _ => by
      rw [need, needList, serialize]
      simp only [List.length_append, List.length_cons]
      omega
    | .elem n attrs (c :: cs), hw => by
      have := needList_le (c :: cs) (wf_elem_iff.1 hw).2.2.2
      rw [need, serialize]
      simp only [List.length_append, List.length_cons]
      omega
  theorem needList_le : ∀ (xs : List XNode), wfList xs = true → needList xs ≤ (serializeList xs).length + 1
    | [], _ => Nat.le_refl 1
    | x :: xs, hw => by
      have h1 := need_le x (wfList_cons hw).1
      have h2 := needList_le xs (wfList_cons hw).2
      have h3 := need_pos x
      rw [needList, serializeList, List.length_append]
      omega
end

theorem parseDoc_serialize_node (t : XNode) (hw : wf t = true) : parseDoc (serialize t) = some t := by
  have := parseNode_serialize t hw [] (fun _ => .inl rfl) ((serialize t).length + 2) (by have := need_le t hw; omega)
  rw [List.append_nil] at this
  rw [parseDoc, this]

/-- The two prefixes the device profiles use for the base namespace. -/
def StdPfx (pfx : Str) : Prop := pfx = "nc:".toList ∨ pfx = []

theorem wfList_elems : ∀ (l : List XNode), (∀ x ∈ l, wf x = true ∧ isText x = false) → wfList l = true
  | [], _ => rfl
  | [x], h => (h x List.mem_cons_self).1
  | x :: y :: rest, h => by
    have hx := h x List.mem_cons_self
    have ih := wfList_elems (y :: rest) fun z hz => h z (List.mem_cons_of_mem x hz)
    match x, hx with
    | .elem _ _ _, hx => unfold wfList; rw [hx.1, ih]; rfl

theorem validName_pfx {pfx n : Str} (hp : StdPfx pfx) (hn : validName n = true) : validName (pfx ++ n) = true := by
  rcases hp with rfl | rfl
  · exact validName_append (by decide_chars) (validName_all hn)
  · exact hn

theorem nsDecl_name {pfx : Str} (hp : StdPfx pfx) :
    validName (nsDecl pfx).1 = true ∧ (nsDecl pfx).1 ≠ "message-id".toList := by
  rcases hp with rfl | rfl <;> decide_chars

theorem wf_helloTree (pfx : Str) (caps : List Str) (hp : StdPfx pfx) (hc : ∀ c ∈ caps, c ≠ []) :
    wf (helloTree pfx caps) = true := by
  have hcaps : wfList (caps.map fun c => XNode.elem (pfx ++ "capability".toList) [] [.text c]) = true := by
    refine wfList_elems _ fun x hx => ?_
    obtain ⟨c, hcm, rfl⟩ := List.mem_map.1 hx
    refine ⟨wf_elem_iff.2 ⟨validName_pfx hp (by decide_chars), nofun, List.nodup_nil, ?_⟩, rfl⟩
    match c, hc c hcm with
    | _ :: _, _ => rfl
  exact wf_elem_iff.2 ⟨validName_pfx hp (by decide_chars),
    fun a ha => List.mem_singleton.1 ha ▸ (nsDecl_name hp).1, (List.pairwise_singleton _ _),
    wf_elem_iff.2 ⟨validName_pfx hp (by decide_chars), nofun, List.nodup_nil, hcaps⟩⟩

theorem capsOf_helloTree (pfx : Str) (caps : List Str) : capsOf pfx (helloTree pfx caps) = caps.map some := by
  simp only [helloTree, capsOf, List.flatMap_cons, List.flatMap_nil, List.append_nil, if_true, List.filterMap_map]
  rw [← List.filterMap_eq_map]
  exact congrArg (List.filterMap · caps) (funext fun c => if_pos rfl)

/-- What a peer reads out of the `<hello>` ncclient builds: exactly the capability list, in order, each
    string unaltered (query strings with `&`, `<` … included). -/
theorem hello_roundtrip (pfx : Str) (caps : List Str) (hp : StdPfx pfx) (hc : ∀ c ∈ caps, c ≠ []) :
    (parseDoc (serialize (helloTree pfx caps))).map (capsOf pfx) = some (caps.map some) := by
  rw [parseDoc_serialize_node _ (wf_helloTree pfx caps hp hc)]
  exact congrArg some (capsOf_helloTree pfx caps)

theorem wf_rpcTree (pfx mid : Str) (op : XNode) (hp : StdPfx pfx) (hop : wf op = true) :
    wf (rpcTree pfx mid op) = true := by
  obtain ⟨h1, h2⟩ := nsDecl_name hp
  exact wf_elem_iff.2 ⟨validName_pfx hp (by decide_chars),
    List.forall_mem_cons.2 ⟨h1, List.forall_mem_singleton.2 (by decide_chars : validName "message-id".toList = true)⟩,
    List.pairwise_pair.2 h2, hop⟩

/-- The `<rpc>` envelope: a peer reads back the operation element as it was built and the message-id as
    it was generated, whatever characters either contains. -/
theorem rpc_roundtrip (pfx mid : Str) (n : Str) (attrs : List (Str × Str)) (cs : List XNode) (hp : StdPfx pfx)
    (hop : wf (.elem n attrs cs) = true) :
    parseDoc (serialize (rpcTree pfx mid (.elem n attrs cs))) = some (rpcTree pfx mid (.elem n attrs cs)) ∧
    attrOf "message-id".toList (rpcTree pfx mid (.elem n attrs cs)) = some mid := by
  constructor
  · exact parseDoc_serialize_node _ (wf_rpcTree pfx mid _ hp hop)
  · simp only [rpcTree, attrOf, List.find?_cons, (nsDecl_name hp).2, decide_false, decide_true, Option.map_some]

theorem parseRoot_of_parseNode (fuel : Nat) (s rest : Str) (t : XNode) (h : parseNode fuel s = some (t, rest)) :
    parseRoot s = rootOf t := by
  unfold parseNode at h
  unfold parseRoot
  repeat' split at h
  all_goals simp only [Option.some.injEq, Prod.mk.injEq, reduceCtorEq] at h
  all_goals rw [← h.1]
  -- the two results that are elements: both functions have read name and attributes alike
  · simp only [rootOf, Bool.false_eq_true, if_false, *]
  · simp only [rootOf, Bool.false_eq_true, if_false, *]
  -- a text node: the input does not begin with `<`
  · split
    · next heq => exact absurd (List.cons.inj heq).1 ‹_›
    · rfl

theorem parseRoot_agrees (s : Str) (t : XNode) (h : parseDoc s = some t) : parseRoot s = rootOf t := by
  unfold parseDoc at h
  split at h
  · cases h
    exact parseRoot_of_parseNode _ s [] _ ‹_›
  · cases h

end NcVerif.XmlDocP
