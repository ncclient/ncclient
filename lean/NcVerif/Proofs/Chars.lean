/-
  Evaluating test vectors that are written with string literals.
-/
namespace NcVerif

/-- `decide +kernel`, after every `"…".toList` of the goal has been replaced by the list of its characters.
    The kernel evaluates `String.toList` on a literal by encoding the literal to UTF-8 and decoding the
    octets again, in time quadratic in its length (seconds for 200 characters); `String.toList_ofList`
    hands it the characters at once, a literal being `String.ofList` of them.  Literals inside the
    definitions the goal mentions are not reached; they are short. -/
macro "decide_chars" : tactic => `(tactic| ((repeat rw [String.toList_ofList]); decide +kernel))

end NcVerif
