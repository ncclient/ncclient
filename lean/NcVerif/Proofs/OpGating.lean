/-
  The regenerated operation table `Gen.opRows` against the capability dependencies of `Spec/Ops` (C09):
  all per-row requirements in one statement, so that the kernel goes through the rows once.
-/
import NcVerif.Spec.Ops
namespace NcVerif.OpGating
open NcVerif NcVerif.Gen NcVerif.OpsSpec

/-- `probed` is `probedAll` row by row. -/
structure RowOk (r : OpRow) : Prop where
  gating : gatingOk r = true
  gatedParams : gatedParamsOk r = true
  gatedValues : gatedValuesOk r = true
  refusal : refusalOk r = true
  probed : (!(isSent r && allCaps r) || (required r).all (· ∈ r.probedMinus)) = true

theorem rows_ok : ∀ r ∈ opRows, RowOk r := by
  have h : ∀ r ∈ opRows, gatingOk r = true ∧ gatedParamsOk r = true ∧ gatedValuesOk r = true ∧
      refusalOk r = true ∧ (!(isSent r && allCaps r) || (required r).all (· ∈ r.probedMinus)) = true := by
    decide +kernel
  exact fun r hr => let ⟨a, b, c, d, e⟩ := h r hr; ⟨a, b, c, d, e⟩

end NcVerif.OpGating
