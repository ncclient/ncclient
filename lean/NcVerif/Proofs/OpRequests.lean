/-
  The regenerated operation table `Gen.opRows` against the request shapes of `Spec/Ops` (C07): all
  per-row requirements in one statement, so that the kernel goes through the rows once.
-/
import NcVerif.Spec.Ops
namespace NcVerif.OpRequests
open NcVerif NcVerif.Gen NcVerif.OpsSpec

structure RowOk (r : OpRow) : Prop where
  shape : shapeOk r = true
  order : orderOk r = true
  outsider : outsiderOk r = true
  enumValues : enumValuesOk r = true
  sentinels : sentinelsOk r = true

theorem rows_ok : ∀ r ∈ opRows, RowOk r := by
  have h : ∀ r ∈ opRows, shapeOk r = true ∧ orderOk r = true ∧ outsiderOk r = true ∧
      enumValuesOk r = true ∧ sentinelsOk r = true := by decide +kernel
  exact fun r hr => let ⟨a, b, c, d, e⟩ := h r hr; ⟨a, b, c, d, e⟩

end NcVerif.OpRequests
