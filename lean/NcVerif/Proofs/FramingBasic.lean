/-
  Facts shared by the proofs about both framings and by the session proofs that run the parser:
  `hasRaise` / `delivers` on composed output lists,
  sequencing of parser outputs (`andThen`), `outcomes`, and the shape `Sound` of what
  `delivered_sound10/11` assert.
-/
import NcVerif.Proofs.Basic
import NcVerif.Model.Framing
import NcVerif.Spec.Framing

namespace NcVerif.Framing
open NcVerif.FramingSpec

@[simp] theorem hasRaise_deliver_cons (t : Str) (o : List Out) : hasRaise (.deliver t :: o) = hasRaise o := by
  simp [hasRaise]

@[simp] theorem hasRaise_raise_cons (k : ErrKind) (o : List Out) : hasRaise (.raise k :: o) = true := by
  simp [hasRaise]

theorem hasRaise_append (a b : List Out) : hasRaise (a ++ b) = (hasRaise a || hasRaise b) := by
  simp [hasRaise]

@[simp] theorem delivers_deliver_cons (t : Str) (o : List Out) : delivers (.deliver t :: o) = t :: delivers o := by
  simp [delivers]

theorem delivers_append (a b : List Out) : delivers (a ++ b) = delivers a ++ delivers b := by
  simp [delivers]

/-- Outputs `a`, then `b` unless `a` ended in an error: how the worker loop (`feedAll`) and the
    parsers' own recursion compose output lists. -/
def andThen (a b : List Out) : List Out := if hasRaise a then a else a ++ b

@[simp] theorem nil_andThen (b : List Out) : andThen [] b = b := rfl

@[simp] theorem andThen_nil (a : List Out) : andThen a [] = a := by simp [andThen]

@[simp] theorem deliver_cons_andThen (t : Str) (a b : List Out) :
    andThen (.deliver t :: a) b = .deliver t :: andThen a b := by
  simp only [andThen, hasRaise_deliver_cons]; split <;> rfl

@[simp] theorem raise_cons_andThen (k : ErrKind) (a b : List Out) : andThen (.raise k :: a) b = .raise k :: a := by
  simp [andThen]

theorem andThen_of_hasRaise {a : List Out} (b : List Out) (h : hasRaise a = true) : andThen a b = a := by
  simp [andThen, h]

theorem andThen_of_not_hasRaise {a : List Out} (b : List Out) (h : hasRaise a = false) : andThen a b = a ++ b := by
  simp [andThen, h]

theorem andThen_eq_nil {a b : List Out} (h : andThen a b = []) : a = [] := by
  cases ha : hasRaise a with
  | true => rwa [andThen_of_hasRaise _ ha] at h
  | false => rw [andThen_of_not_hasRaise _ ha] at h; exact (List.append_eq_nil_iff.mp h).1

theorem andThen_congr {a b b' : List Out} (h : hasRaise a = false → b = b') : andThen a b = andThen a b' := by
  cases ha : hasRaise a with
  | true => rw [andThen_of_hasRaise _ ha, andThen_of_hasRaise _ ha]
  | false => rw [h ha]

theorem feedAll_cons_outs (b : Bool) (s : PState) (seg : Bytes) (segs : List Bytes) :
    (feedAll b s (seg :: segs)).2 = andThen (feed b s seg).2 (feedAll b (feed b s seg).1 segs).2 := by
  simp only [feedAll, andThen]; split <;> rfl

theorem outcomes_cons_none {present : Bytes → Option Str} {p : Bytes} (ps : List Bytes)
    (h : present p = none) : outcomes present (p :: ps) = [.raise .decode] := by
  simp [outcomes, h]

theorem outcomes_cons_some {present : Bytes → Option Str} {p : Bytes} {t : Str} (ps : List Bytes)
    (h : present p = some t) : outcomes present (p :: ps) = .deliver t :: outcomes present ps := by
  simp [outcomes, h]

theorem outcomes_append (present : Bytes → Option Str) (ps1 ps2 : List Bytes) :
    outcomes present (ps1 ++ ps2) = andThen (outcomes present ps1) (outcomes present ps2) := by
  induction ps1 with
  | nil => rfl
  | cons p ps ih =>
    cases hp : present p with
    | none => simp [outcomes_cons_none _ hp]
    | some t => simp [outcomes_cons_some _ hp, ih]

theorem delivers_outcomes_length (present : Bytes → Option Str) (ps : List Bytes) :
    (delivers (outcomes present ps)).length ≤ ps.length := by
  induction ps with
  | nil => simp [outcomes, delivers]
  | cons p ps ih =>
    cases hp : present p with
    | none => simp [outcomes_cons_none _ hp, delivers]
    | some t =>
      rw [outcomes_cons_some _ hp]
      simp only [delivers, List.filterMap_cons, List.length_cons] at ih ⊢; omega

/-- `outs` presents, in order, messages whose encodings form a prefix of `stream`, each acceptable
    (`ok`), followed by at most one error.  (`ms` with `enc`, `present`: the payloads of 1.0, the
    chunk lists of 1.1.) -/
def Sound {μ} (ok : μ → Prop) (enc : μ → Bytes) (present : μ → Option Str) (stream : Bytes)
    (outs : List Out) : Prop :=
  ∃ ms : List μ, (∀ m ∈ ms, ok m) ∧ (ms.map enc).flatten <+: stream ∧
    ∃ texts : List Str, ms.map present = texts.map some ∧
      (outs = texts.map .deliver ∨ ∃ k, outs = texts.map .deliver ++ [.raise k])

section Sound
variable {μ} {ok : μ → Prop} {enc : μ → Bytes} {present : μ → Option Str}

theorem Sound.nil (stream : Bytes) : Sound ok enc present stream [] :=
  ⟨[], nofun, List.nil_prefix, [], rfl, .inl rfl⟩

theorem Sound.raise (stream : Bytes) (k : ErrKind) : Sound ok enc present stream [.raise k] :=
  ⟨[], nofun, List.nil_prefix, [], rfl, .inr ⟨k, rfl⟩⟩

theorem Sound.deliver {m : μ} {text : Str} {stream : Bytes} {outs : List Out} (hm : ok m)
    (hp : present m = some text) (h : Sound ok enc present stream outs) :
    Sound ok enc present (enc m ++ stream) (.deliver text :: outs) := by
  obtain ⟨ms, hok, hpre, texts, htx, hshape⟩ := h
  refine ⟨m :: ms, ?_, ?_, text :: texts, by simp [hp, htx], ?_⟩
  · intro x hx
    rcases List.mem_cons.mp hx with rfl | hx
    · exact hm
    · exact hok x hx
  · simpa using hpre
  · rcases hshape with rfl | ⟨k, rfl⟩
    · exact .inl rfl
    · exact .inr ⟨k, rfl⟩

end Sound

end NcVerif.Framing
