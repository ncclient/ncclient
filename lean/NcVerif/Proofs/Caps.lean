/-
  Lemmas about `Model/Caps` for C08 / C09 / C05: the dict primitives on their own;
  `abbreviate` through its loop; histories of `add` / `remove` as a refinement of the abstract ordered
  set (`run_eq_ofKeys`), of which `mk` is the instance "adds only, from empty"; lookups in an object
  every entry of which is the parse of its own key (`Canon`), which is what every history yields;
  the gate of `Model/Ops` as a search for the first capability that is missing.
-/
import NcVerif.Proofs.Basic
import NcVerif.Proofs.Chars
import NcVerif.Model.Caps
import NcVerif.Model.Ops
namespace NcVerif
open NcVerif.Caps

section dict
variable {κ ν} [DecidableEq κ] (d : List (κ × ν)) (k : κ)

theorem dictGet_eq_find? : dictGet d k = (d.find? (·.1 = k)).map Prod.snd := by
  fun_induction dictGet d k <;> simp_all

theorem dictGet_none_iff : dictGet d k = none ↔ k ∉ d.map Prod.fst := by
  fun_induction dictGet d k <;> grind

variable {d k} in
theorem dictGet_some_mem {v : ν} (h : dictGet d k = some v) : (k, v) ∈ d := by
  fun_induction dictGet d k <;> simp_all

theorem dictGet_append (d' : List (κ × ν)) : dictGet (d ++ d') k = (dictGet d k).or (dictGet d' k) := by
  fun_induction dictGet d k <;> simp_all [dictGet]

theorem dictGet_dictSet (k' : κ) (v : ν) :
    dictGet (dictSet d k v) k' = if k = k' then some v else dictGet d k' := by
  fun_induction dictSet d k v <;> grind [dictGet]

theorem keys_dictSet (v : ν) :
    (dictSet d k v).map Prod.fst =
      if k ∈ d.map Prod.fst then d.map Prod.fst else d.map Prod.fst ++ [k] := by
  fun_induction dictSet d k v <;> grind

variable {d k} in
theorem mem_dictSet {v : ν} {p : κ × ν} (h : p ∈ dictSet d k v) : p = (k, v) ∨ p ∈ d := by
  fun_induction dictSet d k v <;> grind

theorem dictGet_foldl_dictSet (ps : List (κ × ν)) :
    dictGet (ps.foldl (fun d p => dictSet d p.1 p.2) d) k = (dictGet ps.reverse k).or (dictGet d k) := by
  induction ps generalizing d with
  | nil => rfl
  | cons p ps ih =>
    rw [List.foldl_cons, ih, dictGet_dictSet, List.reverse_cons, dictGet_append, Option.or_assoc]
    by_cases h : p.1 = k <;> simp [dictGet, h]

end dict

theorem fromUri_ns_takeWhile (uri : Str) : (fromUri uri).ns = uri.takeWhile (· ≠ '?') := by
  obtain ⟨t, ht⟩ := splitOn_head_takeWhile '?' uri
  unfold fromUri
  rw [ht]
  cases t <;> rfl

theorem abbrevParts_inv {ps l : List Str} (e : abbrevParts ps = some l) :
    (∃ a b t, ps = sCapability :: a :: b :: t ∧ l = [':' :: a, ':' :: a ++ ':' :: b]) ∨
    (∃ a t, ps = sBase :: a :: t ∧ l = [sColonBase, sColonBase ++ ':' :: a]) := by
  unfold abbrevParts at e
  split at e
  · split at e
    · split at e
      · cases e; subst_vars; exact .inl ⟨_, _, _, rfl, rfl⟩
      · cases e
    · split at e
      · cases e; subst_vars; exact .inr ⟨_, _, rfl, rfl⟩
      · cases e
  · cases e

/-- The loop body of `_abbreviate` for one prefix. -/
theorem abbrev_body_eq_some (p ns : Str) (l : List Str) :
    (if p.isPrefixOf ns then abbrevParts (splitOn ':' (ns.drop p.length)) else none) = some l ↔
      ∃ r, ns = p ++ r ∧ abbrevParts (splitOn ':' r) = some l := by
  rw [Option.ite_none_right_eq_some, List.isPrefixOf_iff_prefix]
  constructor
  · rintro ⟨⟨r, rfl⟩, h⟩
    exact ⟨r, rfl, by rwa [List.drop_left] at h⟩
  · rintro ⟨r, rfl, h⟩
    exact ⟨List.prefix_append p r, by rwa [List.drop_left]⟩

theorem pfx_exclusive (ns : Str) (h1 : pfxXml <+: ns) (h2 : pfxNc <+: ns) : False := by
  have : pfxNc.length ≤ pfxXml.length ∧ ¬ pfxNc <+: pfxXml := by
    unfold pfxNc pfxXml
    decide_chars
  exact this.2 (List.prefix_of_prefix_length_le h2 h1 this.1)

/-- A first-match loop over two candidates of which at most one matches: their order does not show. -/
theorem mem_findSome?_pair {α β} (f : α → Option (List β)) (a b : α)
    (excl : ∀ la lb, f a = some la → f b = some lb → False) (k : β) :
    k ∈ ([a, b].findSome? f).getD [] ↔ ∃ p ∈ [a, b], ∃ l, f p = some l ∧ k ∈ l := by
  simp only [List.findSome?_cons, List.findSome?_nil, List.mem_cons, List.not_mem_nil, or_false,
    exists_eq_or_imp, exists_eq_left]
  cases ha : f a with
  | some la => simpa using fun lb hb => (excl la lb ha hb).elim
  | none => cases f b <;> simp

/-- `_abbreviate` is its loop body at whichever of the two prefixes fits. -/
theorem mem_abbreviate_iff (key ns : Str) :
    key ∈ abbreviate ns ↔
      ∃ p ∈ prefixes, ∃ l, (∃ r, ns = p ++ r ∧ abbrevParts (splitOn ':' r) = some l) ∧ key ∈ l := by
  simp only [abbreviate, prefixes, ← abbrev_body_eq_some]
  refine mem_findSome?_pair _ _ _ ?_ _
  simp only [abbrev_body_eq_some]
  rintro _ _ ⟨r1, h1, -⟩ ⟨r2, h2, -⟩
  exact pfx_exclusive ns ⟨r1, h1.symm⟩ ⟨r2, h2.symm⟩

theorem head_of_mem_abbreviate {key ns : Str} (h : key ∈ abbreviate ns) : ∃ t, key = ':' :: t := by
  obtain ⟨_, _, l, ⟨_, _, hl⟩, hk⟩ := (mem_abbreviate_iff key ns).mp h
  rcases abbrevParts_inv hl with ⟨a, b, _, _, rfl⟩ | ⟨a, _, _, rfl⟩ <;>
    simp only [List.mem_cons, List.not_mem_nil, or_false] at hk <;>
    rcases hk with rfl | rfl <;> exact ⟨_, rfl⟩

theorem mem_absStep (l : List Str) (op : Op) (v : Str) :
    v ∈ absStep l op ↔ (v ∈ l ∧ op ≠ .remove v) ∨ op = .add v := by
  cases op <;> grind [absStep]

/-- Every entry is the parse of its own key: what `mk`, `add` and `remove` maintain. -/
def Canon (d : Caps) : Prop := ∀ p ∈ d, p.2 = fromUri p.1

theorem canon_nil : Canon [] := by intro p hp; cases hp

theorem canon_ofKeys (l : List Str) : Canon (ofKeys l) := by
  simp [Canon, ofKeys]

theorem canon_step (d : Caps) (op : Op) (h : Canon d) : Canon (step d op) := by
  intro p hp
  cases op with
  | add u =>
    rcases mem_dictSet hp with rfl | hp
    · rfl
    · exact h p hp
  | remove u => exact h p (List.mem_filter.mp hp).1

theorem canon_run (d : Caps) (ops : List Op) (h : Canon d) : Canon (run d ops) :=
  List.foldlRecOn ops step h fun d hd op _ => canon_step d op hd

theorem keys_step (d : Caps) (op : Op) : keys (step d op) = absStep (keys d) op := by
  cases op with
  | add u =>
    simp only [step, add, keys, absStep, keys_dictSet]
    split <;> simp [*]
  | remove u => simp only [step, remove, keys, absStep, List.filter_map]; rfl

theorem keys_run (d : Caps) (ops : List Op) : keys (run d ops) = ops.foldl absStep (keys d) :=
  (List.foldl_hom keys fun d op => (keys_step d op).symm).symm

theorem canon_eq_ofKeys (d : Caps) (h : Canon d) : d = ofKeys (keys d) := by
  rw [ofKeys, keys, List.map_map]
  exact (List.map_id d).symm.trans (List.map_congr_left fun p hp => Prod.ext rfl (h p hp))

theorem keys_ofKeys (l : List Str) : keys (ofKeys l) = l := by
  simp [keys, ofKeys, Function.comp_def]

/-- The refinement: whatever was added and removed, the object is the one freshly built from the
    abstract ordered set the same operations yield. -/
theorem run_eq_ofKeys (d : Caps) (ops : List Op) (h : Canon d) :
    run d ops = ofKeys (ops.foldl absStep (keys d)) := by
  rw [← keys_run]
  exact canon_eq_ofKeys _ (canon_run d ops h)

theorem mk_eq_run (uris : List Str) : mk uris = run [] (uris.map .add) := by
  rw [run, List.foldl_map]
  rfl

theorem canon_mk (uris : List Str) : Canon (mk uris) :=
  mk_eq_run uris ▸ canon_run [] _ canon_nil

theorem mem_keys_mk (uris : List Str) (u : Str) : u ∈ keys (mk uris) ↔ u ∈ uris := by
  have : ∀ l, u ∈ (uris.map Op.add).foldl absStep l ↔ u ∈ l ∨ u ∈ uris := by
    induction uris with
    | nil => simp
    | cons x xs ih => intro l; simp [ih, mem_absStep, or_assoc, eq_comm]
  rw [mk_eq_run, keys_run, this]
  simp [keys]

theorem dictGet_canon {d : Caps} (h : Canon d) (u : Str) :
    dictGet d u = if u ∈ keys d then some (fromUri u) else none := by
  cases hg : dictGet d u with
  | none => rw [if_neg (show u ∉ keys d from (dictGet_none_iff d u).mp hg)]
  | some c =>
    have hm := dictGet_some_mem hg
    rw [if_pos (show u ∈ keys d from List.mem_map.mpr ⟨_, hm, rfl⟩)]
    exact congrArg some (h _ hm)

theorem dictGet_mk (uris : List Str) (u : Str) :
    dictGet (mk uris) u = if u ∈ uris then some (fromUri u) else none := by
  simp only [dictGet_canon (canon_mk uris), mem_keys_mk]

/-- `__getitem__` on a `Canon` object, in terms of its keys alone: the key itself if it is there, else
    the first URI, in iteration order, that has it as a shorthand. -/
theorem getItem_canon {d : Caps} (h : Canon d) (key : Str) :
    getItem d key =
      if key ∈ keys d then .ok (fromUri key)
      else match (keys d).find? (fun u => decide (key ∈ abbreviate (fromUri u).ns)) with
        | some u => .ok (fromUri u)
        | none => .error .keyError := by
  have hv : d.map Prod.snd = (keys d).map fromUri := by
    rw [keys, List.map_map]
    exact List.map_congr_left h
  by_cases hk : key ∈ keys d
  · simp only [getItem, dictGet_canon h, hk, if_true]
  · simp only [getItem, dictGet_canon h, hk, if_false, hv, List.find?_map, Function.comp_def]
    cases List.find? _ (keys d) <;> rfl

theorem contains_canon {d : Caps} (h : Canon d) (key : Str) :
    contains d key = true ↔ key ∈ keys d ∨ ∃ u ∈ keys d, key ∈ abbreviate (fromUri u).ns := by
  rw [contains, getItem_canon h]
  by_cases hk : key ∈ keys d
  · simp [hk]
  · have := List.find?_isSome (xs := keys d) (p := fun u => decide (key ∈ abbreviate (fromUri u).ns))
    simp only [decide_eq_true_eq] at this
    rw [if_neg hk, ← this]
    cases List.find? _ (keys d) <;> simp [hk]

/-- A key that does not begin with `:` is no shorthand: it is in the object iff it is one of its URIs. -/
theorem contains_mk_of_not_colon {key : Str} (hk : ∀ t, key ≠ ':' :: t) (l : List Str) :
    contains (mk l) key = true ↔ key ∈ l := by
  have hn : ∀ ns, key ∉ abbreviate ns := fun ns h => (head_of_mem_abbreviate h).elim hk
  simp only [contains_canon (canon_mk l), mem_keys_mk, hn, and_false, exists_false, or_false]

theorem gate_eq_find? (caps : Caps) (req : List Str) :
    Ops.gate caps req = (req.find? fun c => !contains caps c).map .missingCapability := by
  induction req with
  | nil => rfl
  | cons c rest ih =>
    rw [Ops.gate, List.find?_cons, ih]
    cases contains caps c <;> rfl

end NcVerif
