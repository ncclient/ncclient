/-
  C02 — outbound framing matches the negotiated version under partial writes.
  Over all histories and environments of Model/Session (every interleaving
  of submitting threads with the worker's micro-steps, every short-write pattern).
-/
import NcVerif.Proofs.SessionB
import NcVerif.Proofs.Framing11
namespace NcVerif.C02
open NcVerif NcVerif.Session NcVerif.SessionSpec NcVerif.Framing NcVerif.FramingSpec

/-- Single consumer, FIFO: what was taken off the queue followed by what is still on it is exactly
    what was submitted, in submission (`Queue.put`) order — nothing dropped, duplicated, reordered. -/
theorem fifo (env : Env) (ops : List Op) :
    (run env init ops).dequeued.map Prod.fst ++ (run env init ops).q = (run env init ops).puts :=
  (SessionB.invQ_run env ops).fifo

/-- Each dequeued message becomes one frame, in the framing selected by `_base` at that moment
    (the marked client `<hello>` always in end-of-message framing). -/
theorem frames_spec (env : Env) (ops : List Op) :
    (run env init ops).frames =
      (run env init ops).dequeued.map fun p => frame (p.2 && !p.1.isHello) p.1.data :=
  (SessionB.invQ_run env ops).frames

/-- The wire is always a prefix of the concatenation of the frames: frames are contiguous, never
    interleaved, never truncated in the middle and continued with another. -/
theorem wire_prefix (env : Env) (ops : List Op) :
    (run env init ops).wire <+: (run env init ops).frames.flatten :=
  SessionB.wireRel_prefix (SessionB.invQ_run env ops).wire

/-- While a frame is being written, wire ++ (what is left of it) is the concatenation of the frames. -/
theorem wire_writing (env : Env) (ops : List Op) (data : Bytes) :
    (run env init ops).pc = .writing data →
      (run env init ops).wire ++ data = (run env init ops).frames.flatten := by
  intro h
  have := (SessionB.invQ_run env ops).wire
  rwa [h] at this

/-- Between frames (worker at any other live point of its loop) the wire is exactly the frames. -/
theorem wire_complete (env : Env) (ops : List Op) :
    ((run env init ops).pc = .top ∨ (run env init ops).pc = .select ∨ (run env init ops).pc = .read ∨
     (∃ t, (run env init ops).pc = .dispatching t) ∨ (run env init ops).pc = .exiting) →
      (run env init ops).wire = (run env init ops).frames.flatten := by
  have := (SessionB.invQ_run env ops).wire
  rintro (h | h | h | ⟨t, h⟩ | h) <;> (rw [h] at this; exact this)

/-- Whatever short-write pattern the transport exhibits (each write accepts ≥ 1 byte), once the
    writes add up to the frame the whole frame, and nothing else, is on the wire. -/
theorem short_writes_total (env : Env) (w : World) (data : Bytes) (ns : List Int)
    (hpc : w.pc = .writing data) (hne : data ≠ []) (hpos : ∀ n ∈ ns, 1 ≤ n)
    (hsum : data.length ≤ (ns.map Int.toNat).sum) :
    (run env w (ns.map .wWrite)).wire = w.wire ++ data ∧ (run env w (ns.map .wWrite)).pc = .select :=
  SessionB.short_writes_total env w data ns hpc hne hpos hsum

/-- A transport that accepts no more bytes is an error (SessionCloseError), not a silent drop. -/
theorem write_failure_is_error (env : Env) (w : World) (data : Bytes) (n : Int)
    (hpc : w.pc = .writing data) (hn : n ≤ 0) :
    (step env w (.wWrite n)).pc = .failing .sessionClose ∧ (step env w (.wWrite n)).wire = w.wire := by
  simp only [step, hpc, hn, if_true, and_self]

/-- RFC 6242: the chunk header carries the octet count of the UTF-8 payload. -/
theorem frame11_header (data : Bytes) :
    frame true data = [0x0a, 0x23] ++ natDigits data.length ++ [0x0a] ++ data ++ endDelim11 := by
  simp only [frame, if_true]

/-- Decoding the client's 1.1 byte stream per RFC 6242 (with the verified inbound decoder, under
    any segmentation) yields exactly the submitted messages, in order. -/
theorem frames_roundtrip11 (ds : List Bytes) (segs : List Bytes) (h : ∀ d ∈ ds, d ≠ [])
    (hs : segs.flatten = (ds.map (frame true)).flatten) :
    obs (feedAll true init segs) = outcomes present11 ds := by
  have henc : (ds.map (frame true)).flatten = enc11 (ds.map fun d => [d]) := by
    rw [enc11, List.map_map]
    exact congrArg _ (List.map_congr_left fun d _ => by simp [frame, enc11msg, chunk11])
  have hw : WF (ds.map fun d => [d]) := by
    intro cs hcs
    obtain ⟨d, hd, rfl⟩ := List.mem_map.1 hcs
    exact ⟨by simp, by simpa using h d hd⟩
  rw [Framing11.decode_encode11 _ segs hw (hs.trans henc)]
  simp [List.map_map, Function.comp_def]

/-- …and per RFC 4742 for 1.0 (messages that do not contain the delimiter). -/
theorem frames_roundtrip10 (ds : List Bytes) (segs : List Bytes) (h : ∀ d ∈ ds, Frameable10 d)
    (hs : segs.flatten = (ds.map (frame false)).flatten) :
    obs (feedAll false init segs) = outcomes present10 ds :=
  SessionB.frames_roundtrip10 ds segs h hs

/-! Non-vacuity -/
-- "é" (2 octets, 1 character) is framed with size 2
example : frame true [0xc3, 0xa9] = [0x0a, 0x23, 0x32, 0x0a, 0xc3, 0xa9, 0x0a, 0x23, 0x23, 0x0a] := by decide +kernel
example : (run C03demo.env init [.kAddListeners, .kSendHello [0x68], .kStart, .wTop true, .wWrite 2, .wWrite 1, .wWrite 10]).wire
    = [0x68, 0x5d, 0x5d, 0x3e, 0x5d, 0x5d, 0x3e] := by decide +kernel

end NcVerif.C02
