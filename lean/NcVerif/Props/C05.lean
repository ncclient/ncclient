/-
  C05 — hello exchange and framing-version negotiation.
  Over all histories (orderings of "server hello received" vs "client hello
  written", transport readiness patterns, hello segmentation) and environments (server capability
  lists, device profile) of Model/Session.  The per-profile client capability tables are in
  Gen/Profiles (regenerated from /repo) and checked in this file.
-/
import NcVerif.Proofs.Chars
import NcVerif.Proofs.SessionB
import NcVerif.Proofs.Profiles
import NcVerif.Proofs.XmlDoc
namespace NcVerif.C05
open NcVerif NcVerif.Session NcVerif.SessionSpec NcVerif.Framing NcVerif.FramingSpec NcVerif.ProfilesSpec

/-- The first frame on the wire is the client `<hello>`, in end-of-message framing, whatever the
    arrival time of the server's hello and the readiness of the transport. -/
theorem hello_first (env : Env) (ops : List Op) (h : UserAfterConnect env ops) :
    ∀ f fs, (run env init ops).frames = f :: fs →
      ∃ d, f = frame false d ∧ (run env init ops).puts.head? = some ⟨d, true⟩ :=
  SessionB.hello_first env ops h

/-- Everything after it is framed in the version the session ended up with: chunked iff `base11`. -/
theorem post_hello_framing (env : Env) (ops : List Op) (h : UserAfterConnect env ops) :
    ∀ p ∈ (run env init ops).dequeued, p.1.isHello = false → p.2 = (run env init ops).base11 :=
  SessionB.post_hello_framing env ops h

/-- `base11` holds iff both peers advertised exactly `urn:ietf:params:netconf:base:1.1`
    (after a successful connect). -/
theorem negotiated_iff (env : Env) (ops : List Op) (h : (run env init ops).conn = .done true) :
    (run env init ops).base11 = true ↔
      ∃ sc, (run env init ops).serverCaps = some sc ∧ base11Uri ∈ sc ∧ base11Uri ∈ env.clientCaps :=
  SessionB.negotiated_iff env ops h

/-- The session id and server capabilities reported to the user are those of a `<hello>` that was
    received. -/
theorem session_id_caps_from_hello (env : Env) (ops : List Op) :
    ∀ sc, (run env init ops).serverCaps = some sc →
      ∃ raw ∈ (run env init ops).received, ∃ sid, env.helloParse raw = some (sid, sc) ∧
        (run env init ops).sessionId = some sid :=
  SessionB.session_id_caps_from_hello env ops

/-- Connect never hangs: while it waits, either the event is set and it finishes (ok or error), or
    the timeout expires and it fails. -/
theorem connect_fails_not_hangs (env : Env) (ops : List Op) (h : (run env init ops).conn = .started) :
    ((run env init ops).initEvent = true → ∃ ok, (step env (run env init ops) .kFinish).conn = .done ok) ∧
    ((run env init ops).initEvent = false → (step env (run env init ops) .kWaitExpire).conn = .done false) :=
  SessionB.connect_fails_not_hangs env _ h

/-- If the session dies first, the waiting connect is woken (it does not sit out its timeout),
    and it fails. -/
theorem dead_session_wakes_connect (env : Env) (ops : List Op) (h : (run env init ops).conn = .started)
    (hd : (run env init ops).errbackDone = true) :
    (run env init ops).initEvent = true ∧ (step env (run env init ops) .kFinish).conn = .done false :=
  SessionB.dead_session_wakes_connect env ops h hd

/-! ## Client capability tables of the 14 profiles (regenerated from the source on every run) -/

/-- Every profile's client capability list contains a NETCONF base URI, whatever extra
    capabilities the user adds (shape `prefix ++ extra ++ suffix`, or a fixed list, recovered by the
    translator by probing each handler). -/
theorem every_profile_has_base (extra : List Str) :
    ∀ p ∈ Gen.profiles, ∃ u ∈ clientCaps p extra, isBaseUri u = true :=
  ProfilesP.has_base extra

/-- The default profile advertises the documented standard list followed by the user's additions. -/
theorem default_caps (extra : List Str) :
    ∀ p ∈ Gen.profiles, p.name = "default".toList →
      clientCaps p extra = documentedDefaultCaps ++ extra := by
  have h : ∀ p ∈ Gen.profiles, p.name = "default".toList →
      p.usesExtra = true ∧ p.capsPrefix = documentedDefaultCaps ∧ p.capsSuffix = [] := by decide +kernel
  intro p hp hn
  obtain ⟨h1, h2, h3⟩ := h p hp hn
  simp [clientCaps, h1, h2, h3]

/-- All 14 shipped profiles are in the table, and there is a default one. -/
theorem table_complete : Gen.profiles.length = 14 ∧ ∃ p ∈ Gen.profiles, p.name = "default".toList := by
  decide +kernel

/-! Non-vacuity: server hello processed BEFORE the client hello could be written (transport not
    ready); the hello still goes out in 1.0 framing and the next message is chunked. -/
def lateReadyOps : List Op :=
  [.kAddListeners, .kSendHello [0x48], .kStart, .wTop false, .wSelect true,
   .wRead (.data [0x68, 0x5d, 0x5d, 0x3e, 0x5d, 0x5d, 0x3e]), .wDispatch, .kFinish,
   .wTop true, .wWrite 100, .cNew 1, .cSend [0x61], .wSelect false, .wTop true, .wWrite 100]
example : (run C03demo.env init lateReadyOps).base11 = true ∧
    (run C03demo.env init lateReadyOps).wire =
      [0x48, 0x5d, 0x5d, 0x3e, 0x5d, 0x5d, 0x3e] ++ [0x0a, 0x23, 0x31, 0x0a, 0x61, 0x0a, 0x23, 0x23, 0x0a] := by
  decide +kernel

/-! ## The `<hello>` document itself (Model/XmlDoc: serialiser and reader modelled, compared with
`HelloHandler.build` byte for byte and with an independent reader on every run) -/

/-- A peer that reads the `<hello>` ncclient builds gets exactly the capability list the manager
    reports — every URI, in order, unaltered (query strings with `&`, `<` … included) — under both
    namespace spellings the device profiles use (`nc:` prefix, default namespace). -/
theorem hello_lists_exactly_the_capabilities (pfx : Str) (caps : List Str)
    (hp : XmlDocP.StdPfx pfx) (hc : ∀ c ∈ caps, c ≠ []) :
    (XmlDoc.parseDoc (XmlDoc.serialize (XmlDoc.helloTree pfx caps))).map (XmlDoc.capsOf pfx) = some (caps.map some) :=
  XmlDocP.hello_roundtrip pfx caps hp hc

example : XmlDoc.serialize (XmlDoc.helloTree "nc:".toList ["urn:x?a=1&b=<2>".toList])
    = "<nc:hello xmlns:nc=\"urn:ietf:params:xml:ns:netconf:base:1.0\"><nc:capabilities><nc:capability>urn:x?a=1&amp;b=&lt;2&gt;</nc:capability></nc:capabilities></nc:hello>".toList := by
  decide_chars

end NcVerif.C05
