/-
  C07 — requests are well-formed and carry caller data faithfully.
  (i) finite part over the regenerated table Gen/OpTable.lean: every standard and vendor operation x
  argument shape x profile envelope, executed on the real code by the translator and parsed off the
  wire with an independent XML parser; (ii) unbounded part: the escaping discipline, for ALL strings; the
  serialiser / reader round trip, for all well-formed trees; the request builders of Model/Builders and
  Model/Retrieve, for all argument values.
  PARTIAL: lxml's serialiser is modelled (Model/XmlText.lean) and tied to the library by the
  correspondence run, not verified.
-/
import NcVerif.Proofs.Chars
import NcVerif.Proofs.OpRequests
import NcVerif.Proofs.XmlText
import NcVerif.Proofs.XmlDoc
import NcVerif.Proofs.Builders
import NcVerif.Proofs.Retrieve
namespace NcVerif.C07
open NcVerif NcVerif.Gen NcVerif.OpsSpec NcVerif.XmlText NcVerif.XmlDoc

/-- Every call that sends something sends exactly one `<rpc>` in the base namespace, with a message-id
    and exactly one operation element, the one the protocol (or the vendor's schema) defines. -/
theorem one_wellformed_rpc : ∀ r ∈ opRows, shapeOk r = true := fun r h => (OpRequests.rows_ok r h).shape

/-- The parameter elements of RFC 6241's own operations appear in the order the RFC fixes. -/
theorem rfc6241_order : ∀ r ∈ opRows, orderOk r = true := fun r h => (OpRequests.rows_ok r h).order

/-- Arguments outside their documented enumeration (default-operation, test-option, error-option,
    filter type, with-defaults mode, inconsistent combinations) are rejected locally, nothing is sent. -/
theorem enumerations_enforced : ∀ r ∈ opRows, outsiderOk r = true := fun r h => (OpRequests.rows_ok r h).outsider

/-- At wire level: an enumerated parameter element that is sent carries a member of its enumeration. -/
theorem enumerated_values_on_wire : ∀ r ∈ opRows, enumValuesOk r = true := fun r h => (OpRequests.rows_ok r h).enumValues

/-- Every caller-supplied string lands exactly once in the request, in a text or attribute-value
    position, never as a tag. -/
theorem caller_strings_once : ∀ r ∈ opRows, sentinelsOk r = true := fun r h => (OpRequests.rows_ok r h).sentinels

/-- All operations of the manager's table and every vendor operation of every profile were probed. -/
theorem table_covers_operations :
    (opRows.map (fun r => (r.op, r.profile))).eraseDups.length ≥ 45 := by decide +kernel

/-! ## Escaping discipline (unbounded: every string of XML characters) -/

/-- Text round trip: what the serialiser writes for a text node is read back, by any XML parser, as
    exactly the same string (CR included: it is written as `&#13;`). -/
theorem text_roundtrip (s : Str) : parseText (escapeText s) = some s :=
  XmlTextP.parseText_escapeText s

/-- Attribute round trip (TAB / LF / CR survive attribute-value normalisation as references). -/
theorem attr_roundtrip (s : Str) : parseAttr (escapeAttr s) = some s :=
  XmlTextP.parseAttr_escapeAttr s

/-- No injection: escaped text contains no `<`, and every `&` in it starts one of the references the
    serialiser itself wrote — caller text can never become structure. -/
theorem text_no_markup (s : Str) : '<' ∉ escapeText s :=
  XmlTextP.lt_not_mem_escapeText s

theorem attr_no_markup (s : Str) : '<' ∉ escapeAttr s ∧ '"' ∉ escapeAttr s :=
  ⟨XmlTextP.lt_not_mem_escapeAttr s, XmlTextP.quot_not_mem_escapeAttr s⟩

/-- Escaping is a homomorphism: text assembled from pieces escapes piecewise (no context sensitivity). -/
theorem escape_append (a b : Str) : escapeText (a ++ b) = escapeText a ++ escapeText b ∧
    escapeAttr (a ++ b) = escapeAttr a ++ escapeAttr b :=
  ⟨XmlTextP.escapeText_append a b, XmlTextP.escapeAttr_append a b⟩

/-- The round trip does not depend on the reader's fuel (any fuel beyond the escaped length). -/
theorem text_then_markup (s _rest : Str) (fuel : Nat) (h : fuel ≥ (escapeText s).length + 1) :
    readText fuel (escapeText s) = some s :=
  XmlTextP.readText_escapeText s fuel h

/-! ## No injection at TREE level (unbounded: every well-formed element tree)

`XmlDoc.serialize` is how the XML library writes an element tree (compared byte for byte with
`lxml.etree.tostring` / `to_xml` on every run), `XmlDoc.parseDoc` how an XML 1.0 reader reads such text
(compared with expat).  Whatever strings the caller put into text and attribute-value positions, and
however deep the tree, reading the serialisation yields exactly that tree: no caller string can add,
remove or re-parent an element. -/

/-- Document round trip for every well-formed tree (names are XML names, attribute names distinct,
    text nodes non-empty and not adjacent — what the tree API can build). -/
theorem doc_roundtrip (n : Str) (attrs : List (Str × Str)) (cs : List XNode)
    (hw : wf (.elem n attrs cs) = true) :
    parseDoc (serialize (.elem n attrs cs)) = some (.elem n attrs cs) :=
  XmlDocP.parseDoc_serialize_node _ hw

/-- A caller string as the only text of an operation parameter, any markup in it notwithstanding,
    comes back as that one text node under that one element. -/
theorem caller_text_is_one_node (op param : Str) (x : Str) (hop : validName op = true) (hparam : validName param = true)
    (hx : x ≠ []) :
    parseDoc (serialize (.elem op [] [.elem param [] [.text x]])) = some (.elem op [] [.elem param [] [.text x]]) := by
  apply XmlDocP.parseDoc_serialize_node
  have hx' : x.isEmpty = false := by cases x with | nil => exact absurd rfl hx | cons _ _ => rfl
  simp [wf, wfList, hop, hparam, hx']

/-- The same for an attribute value (e.g. the `select` attribute of an XPath filter). -/
theorem caller_attr_is_one_value (op param a : Str) (x : Str) (hop : validName op = true) (hparam : validName param = true)
    (ha : validName a = true) :
    parseDoc (serialize (.elem op [] [.elem param [(a, x)] []])) = some (.elem op [] [.elem param [(a, x)] []]) := by
  apply XmlDocP.parseDoc_serialize_node
  simp [wf, wfList, hop, hparam, ha]

/-- The `<rpc>` envelope (`RPC._wrap`): a peer reads back the operation element as it was built and the
    message-id as it was generated — for every well-formed operation tree and every id string, under
    both namespace spellings of the profiles. -/
theorem rpc_envelope_roundtrip (pfx mid n : Str) (attrs : List (Str × Str)) (cs : List XNode)
    (hp : XmlDocP.StdPfx pfx) (hop : wf (.elem n attrs cs) = true) :
    parseDoc (serialize (rpcTree pfx mid (.elem n attrs cs))) = some (rpcTree pfx mid (.elem n attrs cs)) ∧
    attrOf "message-id".toList (rpcTree pfx mid (.elem n attrs cs)) = some mid :=
  XmlDocP.rpc_roundtrip pfx mid n attrs cs hp hop

/-! ## The request builders themselves, for ALL argument values (Model/Builders: edit-config, lock, unlock,
get-config, delete-config, copy-config, validate, commit, cancel-commit, discard-changes, kill-session,
close-session of the default profile; compared with the real Manager byte for byte on random arguments) -/

section Builders
open NcVerif.Builders NcVerif.BuildersP

/-- Whatever strings the caller passes: a request that is built is ONE well-formed `<rpc>` whose operation
    element the peer reads back exactly as it was built — datastore names, URLs, option values, texts and
    the configuration fragment included — together with its message-id. -/
theorem built_request_roundtrip (has : Str → Bool) (call : Call) (t : XNode) (mid : Str)
    (hcfg : ∀ c tg d to e, call = .edit (.xml c) tg d to e → Good c) (h : build has call = .ok t) :
    parseDoc (serialize (rpcTree "nc:".toList mid t)) = some (rpcTree "nc:".toList mid t) ∧
    attrOf "message-id".toList (rpcTree "nc:".toList mid t) = some mid :=
  (build_ok has call t hcfg h).1.rpc_roundtrip mid

/-- `edit_config`: an option value outside its RFC 6241 enumeration never yields a request; the parameter
    elements come in the order RFC 6241 §7.2 fixes. -/
theorem edit_config_enumerations_and_order (has : Str → Bool) (config : Config) (target : Str) (dop top eop : Option Str) (t : XNode)
    (hcfg : ∀ c, config = .xml c → Good c) (h : editConfig has config target dop top eop = .ok t) :
    (∀ d, dop = some d → ∃ a ∈ enumDo, Builders.s a = d) ∧ (∀ x, top = some x → ∃ a ∈ enumTo, Builders.s a = x) ∧
    (∀ e, eop = some e → ∃ a ∈ enumEo, Builders.s a = e) ∧
    (paramNames t).Sublist ([nc "target"] ++ [nc "default-operation"] ++ [nc "test-option"] ++ [nc "error-option"] ++
      [nc "config", Builders.s "config", nc "config-text", nc "url"]) := by
  have h' := editConfig_spec (A := True) has config target dop top eop (fun _ => hcfg) t h
  exact ⟨h'.2.2.1, h'.2.2.2.1, h'.2.2.2.2, h'.1.1⟩

/-- EVERY base-namespace call (edit-config, lock, unlock, get-config, delete-config, copy-config, validate, commit, cancel-commit,
    discard-changes, kill-session, close-session), for all arguments: what is built carries only the parameter elements RFC 6241
    defines for that call, each at most once, in the RFC's order (`BuildersOrderP.rfcOrder`). -/
theorem base_parameter_order (has : Str → Bool) (call : Call) (t : XNode)
    (hcfg : ∀ c tg d to e, call = .edit (.xml c) tg d to e → Good c) (h : build has call = .ok t) :
    (paramNames t).Sublist (BuildersOrderP.rfcOrder call) := by
  have _ := hcfg  -- not needed: the names never depend on the caller's trees
  exact (build_spec has call t h).1.1

/-- A datastore argument lands on the wire as the caller gave it: a URL as the text of `<url>`, a name as the
    (only) child element of `<source>` / `<target>`. -/
theorem datastore_argument_faithful (has : Str → Bool) (wha : String) (loc : Str) (x : XNode)
    (hn : validName (nc wha) = true) (h : datastoreOrUrl has wha loc = .ok x) :
    (hasSub (Builders.s "://") loc = true → x = el wha [.elem (nc "url") [] (if loc.isEmpty then [] else [.text loc])]) ∧
    (hasSub (Builders.s "://") loc = false → x = el wha [.elem (Builders.s "nc:" ++ loc) [] []]) := by
  have hx := (datastoreOrUrl_spec (A := True) has loc hn x h).2.2
  exact ⟨fun hu => by rw [hx, hu]; rfl, fun hu => by rw [hx, hu]; rfl⟩

example : builtText (build (fun _ => true) (.edit (.text "set <x>".toList) "running".toList none (some "set".toList) none))
    = some "<nc:edit-config><nc:target><nc:running/></nc:target><nc:test-option>set</nc:test-option><nc:config-text><nc:configuration-text>set &lt;x&gt;</nc:configuration-text></nc:config-text></nc:edit-config>".toList := by
  decide_chars
example : refusal (build (fun _ => true) (.edit (.text "x".toList) "running".toList (some "Merge".toList) none none)) = some .operationError := by
  decide_chars
example : refusal (build (fun _ => true) (.lock "bad name".toList)) = some .valueError := by decide_chars
end Builders

/-! ## The retrieval builders (Model/Retrieve: get, get-config with filter / with-defaults, dispatch, create-subscription) -/

section Retrieve
open NcVerif.Builders NcVerif.BuildersP NcVerif.Retrieve NcVerif.RetrieveP

/-- A retrieval request that is built is ONE well-formed `<rpc>` which the peer reads back exactly as built — the XPath
    expression (an attribute value), the caller's subtree filter, the with-defaults mode, stream name and times included. -/
theorem retrieval_request_roundtrip (caps : Caps.Caps) (call : Retrieve.Call) (t : XNode) (mid : Str)
    (hf : FilterGood (filterOf call)) (he : ∀ e ∈ elemArgs call, Good e) (h : Retrieve.build caps call = .ok t) :
    parseDoc (serialize (rpcTree "nc:".toList mid t)) = some (rpcTree "nc:".toList mid t) ∧
    attrOf "message-id".toList (rpcTree "nc:".toList mid t) = some mid :=
  (RetrieveP.build_ok caps call t hf he h).1.rpc_roundtrip mid

/-- An XPath filter is ONE empty `<filter type="xpath">` whose `select` attribute is the caller's expression, unaltered. -/
theorem xpath_filter_faithful (sel : Str) (l : List XNode) (h : filterPart (some (.xpath sel)) = .ok l) :
    l = [.elem (nc "filter") [(Builders.s "type", Builders.s "xpath"), (Builders.s "select", sel)] []] := by
  revert l
  exact Ok.ite (fun _ => .pure rfl) fun _ => .error

/-- A filter type other than xpath / subtree never yields a request. -/
theorem unknown_filter_type_refused (ty : Str) : filterPart (some (.other ty)) = .error .operationError := rfl

/-- get / get-config / get-schema / dispatch / rpc / create-subscription / validate and copy-config with element arguments / the
    power operations, for ALL arguments: what is built carries only parameter elements the protocol defines for that call —
    `target`, `source`, `filter`, `with-defaults`, `config`, `stream`, `startTime`, `stopTime`, `identifier`, `version`, `format` —
    each at most once and in the protocol's order (`RetrieveP.rfcOrder`). -/
theorem retrieval_parameter_order (caps : Caps.Caps) (call : Retrieve.Call) (t : XNode) (h : Retrieve.build caps call = .ok t) :
    (paramNames t).Sublist (RetrieveP.rfcOrder call) :=
  (RetrieveP.build_spec caps call t h).1.1

example : (builtText (Retrieve.build (Caps.mk ["urn:ietf:params:netconf:capability:url:1.0?scheme=ftp".toList])
      (.rpc "cmd".toList (some "running".toList) (some "ftp://h/f".toList) (some (.xpath "/a".toList)) none)))
    = some "<nc:cmd><nc:target><nc:running/></nc:target><nc:source><nc:url>ftp://h/f</nc:url></nc:source><nc:filter type=\"xpath\" select=\"/a\"/></nc:cmd>".toList := by
  decide_chars

example : builtText (Retrieve.build (Caps.mk ["urn:ietf:params:netconf:capability:with-defaults:1.0?basic-mode=explicit&also-supported=report-all,trim".toList])
      (.get (some (.xpath "/a[b=\"x\"]".toList)) (some "trim".toList)))
    = some "<nc:get><nc:filter type=\"xpath\" select=\"/a[b=&quot;x&quot;]\"/><ns0:with-defaults xmlns:ns0=\"urn:ietf:params:xml:ns:yang:ietf-netconf-with-defaults\">trim</ns0:with-defaults></nc:get>".toList := by
  decide_chars
example : builtText (Retrieve.build (Caps.mk []) (.getSchema "mod".toList (some "1.0".toList) none))
    = some "<ncm:get-schema xmlns:ncm=\"urn:ietf:params:xml:ns:yang:ietf-netconf-monitoring\"><ncm:identifier>mod</ncm:identifier><ncm:version>1.0</ncm:version></ncm:get-schema>".toList := by
  decide_chars
example : builtText (Retrieve.build (Caps.mk ["urn:ietf:params:netconf:capability:notification:1.0".toList])
      (.subscribe none (some "NETCONF".toList) (some "t0".toList) (some "t1".toList)))
    = some "<ns0:create-subscription xmlns:ns0=\"urn:ietf:params:xml:ns:netconf:notification:1.0\"><ns0:stream>NETCONF</ns0:stream><ns0:startTime>t0</ns0:startTime><ns0:stopTime>t1</ns0:stopTime></ns0:create-subscription>".toList := by
  decide_chars
end Retrieve

/-! Non-vacuity -/
example : serialize (.elem "g".toList [] [.elem "f".toList [("s".toList, "a\"<".toList)] [.text "</f><k/>".toList]])
    = "<g><f s=\"a&quot;&lt;\">&lt;/f&gt;&lt;k/&gt;</f></g>".toList := by decide_chars
example : (parseDoc "<g><f s=\"a&quot;&lt;\">&lt;/f&gt;&lt;k/&gt;</f></g>".toList).map serialize
    = some "<g><f s=\"a&quot;&lt;\">&lt;/f&gt;&lt;k/&gt;</f></g>".toList := by decide_chars
/-- Un-escaped, the same caller text WOULD be structure: the reader is not trivially permissive. -/
example : (parseDoc "<g><f></f><k/></g>".toList).map serialize = some "<g><f/><k/></g>".toList := by decide_chars
example : (parseDoc "<g><f>".toList).map serialize = none := by decide_chars
example : wf (.elem "a".toList [("k".toList, "v".toList)] [.text "t".toList, .elem "b".toList [] [], .text "u".toList]) = true := by decide_chars
example : escapeText "a<b>&\r\n".toList = "a&lt;b&gt;&amp;&#13;\n".toList := by decide_chars
example : parseText "a&lt;b&gt;&amp;&#13;\n".toList = some "a<b>&\r\n".toList := by decide_chars
example : escapeAttr "x\"y\tz".toList = "x&quot;y&#9;z".toList := by decide_chars
example : ∃ r ∈ opRows, isSent r = true ∧ r.op = s "edit_config" ∧ r.params = [s "target", s "default-operation", s "test-option", s "error-option", s "config"] := by
  unfold s; decide_chars

end NcVerif.C07
