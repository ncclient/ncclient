/-
  C16 — device profiles are complete, consistent and isolated.
  Finite part over the tables regenerated from the source on every run (Gen/Profiles.lean: the 14
  handler modules probed through their own methods; Gen/Isolation.lean: shared-state write sets
  measured by snapshot diff); unbounded part: subsystem preference for every name, non-interference
  for every history.
-/
import NcVerif.Proofs.Chars
import NcVerif.Proofs.Profiles
import NcVerif.Gen.Isolation
namespace NcVerif.C16
open NcVerif NcVerif.Gen NcVerif.ProfilesSpec NcVerif.Isolation

/-- Every shipped profile module (14) loads as the handler class of its name. -/
theorem all_profiles_load : profiles.length = 14 ∧ ∀ p ∈ profiles, p.cls = expectedClass p.name := by
  decide +kernel

/-- Every advertised device name has its profile, implemented by the class of that name, and the
    advertised names are the documented ones. -/
theorem advertised_resolve :
    (∀ n ∈ advertisedNames, ∃ p ∈ profiles, p.name = n ∧ p.advertised = true ∧ p.cls = expectedClass n) ∧
    (∀ n ∈ documentedDevices, n ∈ advertisedNames) ∧ (∀ n ∈ advertisedNames, n ∈ documentedDevices) := by
  have h : (∀ n ∈ advertisedNames, ∃ p ∈ profiles, p.name = n ∧ p.advertised = true) ∧
      (∀ n ∈ documentedDevices, n ∈ advertisedNames) ∧ (∀ n ∈ advertisedNames, n ∈ documentedDevices) := by
    decide +kernel
  refine ⟨fun n hn => ?_, h.2⟩
  obtain ⟨p, hp, rfl, ha⟩ := h.1 n hn
  exact ⟨p, hp, rfl, ha, all_profiles_load.2 p hp⟩

/-- Through every profile, every standard operation name and every vendor operation name resolves,
    vendor classes taking precedence over same-named standard ones. -/
theorem operations_resolve :
    ∀ p ∈ profiles, (∀ kv ∈ standardOps, (resolve p.vendorOps standardOps kv.1).isSome = true) ∧
      (∀ kv ∈ p.vendorOps, resolve p.vendorOps standardOps kv.1 = some kv.2) := by
  have hnd : ∀ p ∈ profiles, (p.vendorOps.map Prod.fst).Nodup := by decide +kernel
  exact fun p hp => ⟨fun _ => ProfilesP.resolve_std_isSome _, fun _ => ProfilesP.resolve_vendor _ (hnd p hp)⟩

theorem vendor_precedence (vendor std : List (Str × Str)) (name cls : Str)
    (h : vendor.lookup name = some cls) : resolve vendor std name = some cls := by
  simp [resolve, h]

theorem standard_still_there (vendor std : List (Str × Str)) (name : Str)
    (h : vendor.lookup name = none) : resolve vendor std name = std.lookup name := by
  simp [resolve, h]

/-- Every profile's client capability list contains a NETCONF base URI, whatever the user adds. -/
theorem base_uri_always (extra : List Str) : ∀ p ∈ profiles, ∃ u ∈ clientCaps p extra, isBaseUri u = true :=
  ProfilesP.has_base extra

/-- SSH subsystem candidates are duplicate-free: by default, with a new preferred name, and with a
    preferred name that is already in the list. -/
theorem subsystems_nodup :
    ∀ p ∈ profiles, p.subsystems.Nodup ∧ p.subsystemsNewPref.Nodup ∧ p.subsystemsExistingPref.Nodup := by
  decide +kernel

/-- Profiles that react to `ssh_subsystem_name` put the preferred name first and follow the
    nexus rule exactly (probed with a new and with an existing name). -/
theorem preference_rule :
    ∀ p ∈ profiles, p.subsystemsNewPref ≠ p.subsystems →
      p.subsystemsNewPref = subsystemsWithPref p.subsystems (some newPref) ∧
      p.subsystemsExistingPref = subsystemsWithPref p.subsystems (some p.existingPref) := by
  decide +kernel

/-- Every profile whose documentation promises the `ssh_subsystem_name` preference honours it. -/
theorem documented_preference_honoured :
    ∀ p ∈ profiles, p.docPref = true →
      p.subsystemsNewPref = subsystemsWithPref p.subsystems (some newPref) ∧
      p.subsystemsExistingPref = subsystemsWithPref p.subsystems (some p.existingPref) := by
  decide +kernel

/-- …and that rule yields, for EVERY preferred name, a duplicate-free list with it first. -/
theorem preference_first (names : List Str) (pref : Str) (h : names.Nodup) :
    (subsystemsWithPref names (some pref)).Nodup ∧ (subsystemsWithPref names (some pref)).head? = some pref := by
  simp only [subsystemsWithPref, List.head?_cons, and_true]
  refine List.nodup_cons.mpr ⟨?_, h.filter _⟩
  simp

/-- No probed call writes a module-level or class-level container of the package, and none failed. -/
theorem no_shared_writes : ∀ o ∈ isoOps, o.sharedWrites = [] ∧ o.failed = false := by decide +kernel

/-- Non-interference: along ANY history of operations whose write sets avoid what is observed through
    `A` (its instance fields and every shared container), what is observed through `A` does not change. -/
theorem noninterference {V} (ops : List (Op V)) (reads : List Cell) (s : State V)
    (hf : ∀ op ∈ ops, Frame op) (hd : ∀ op ∈ ops, ∀ c ∈ reads, c ∉ op.writes) :
    ∀ c ∈ reads, run ops s c = s c :=
  List.foldlRecOn ops _ (motive := fun s' => ∀ c ∈ reads, s' c = s c) (fun _ _ => rfl)
    fun s' ih op hop c hc => (hf op hop s' c (hd op hop c hc)).trans (ih c hc)

/-! Non-vacuity -/
example : ∃ p ∈ profiles, p.name = "nexus".toList ∧ p.subsystemsNewPref.head? = some newPref := by decide +kernel
example : (profiles.filter (·.docPref)).length = 4 := by decide +kernel
example : subsystemsWithPref ["netconf".toList, "xmlagent".toList] (some "xmlagent".toList) = ["xmlagent".toList, "netconf".toList] := by decide_chars
example : ∃ p ∈ profiles, p.name = "junos".toList ∧ resolve p.vendorOps standardOps "commit".toList ≠ standardOps.lookup "commit".toList := by
  decide +kernel

end NcVerif.C16
