/-
  C01 — inbound framing is independent of stream segmentation and chunking.

  `segs` is any way of cutting a byte stream into transport reads
  (`segs.flatten` is the stream); all statements are for arbitrary byte lists of any length.
  The read-size bound (`BUF_SIZE`) is immaterial because the statements hold for every cut.
-/
import NcVerif.Proofs.Framing10
import NcVerif.Proofs.Framing11
import NcVerif.Proofs.SessionC
namespace NcVerif.C01
open NcVerif NcVerif.Framing NcVerif.FramingSpec

/-! ## 1.0 -/

/-- Every byte stream has exactly one RFC 4742 reading (so `spec10` below is not vacuous). -/
theorem split10_total (stream : Bytes) : ∃ ps t, Split10 stream ps t :=
  Framing10.split10_total stream

theorem split10_functional (stream : Bytes) (ps ps' : List Bytes) (t t' : Bytes)
    (h : Split10 stream ps t) (h' : Split10 stream ps' t') : ps = ps' ∧ t = t' :=
  Framing10.split10_functional stream ps ps' t t' h h'

/-- Main 1.0 theorem, for ALL byte streams and ALL segmentations: what is dispatched is exactly
    the stream's payloads, each once, in order, decoded and stripped; a payload that is not
    UTF-8 ends the run with a decode error.  Nothing is dispatched for the undelimited tail. -/
theorem spec10 (segs : List Bytes) (ps : List Bytes) (t : Bytes)
    (h : Split10 segs.flatten ps t) :
    obs (feedAll false init segs) = outcomes present10 ps :=
  Framing10.spec10 segs ps t h

/-- Segmentation independence, 1.0. -/
theorem seg_indep10 (segs₁ segs₂ : List Bytes) (h : segs₁.flatten = segs₂.flatten) :
    obs (feedAll false init segs₁) = obs (feedAll false init segs₂) :=
  Framing10.seg_indep10 segs₁ segs₂ h

/-- Round trip, 1.0: whatever the cuts, the messages a server sent arrive once each, in order
    (modulo surrounding whitespace); trailing blanks after the last delimiter change nothing. -/
theorem decode_encode10 (ms : List Bytes) (segs : List Bytes) (trail : Bytes)
    (hf : ∀ m ∈ ms, Frameable10 m) (ht : hasSub delim10 trail = false)
    (h : segs.flatten = enc10 ms ++ trail) :
    obs (feedAll false init segs) = outcomes present10 ms :=
  Framing10.decode_encode10 ms segs trail hf ht h

/-- No early delivery, 1.0 (instance of the above with `trail` = an unterminated message). -/
theorem no_early10 (ms : List Bytes) (q : Bytes) (segs : List Bytes)
    (hf : ∀ m ∈ ms, Frameable10 m) (hq : hasSub delim10 q = false)
    (h : segs.flatten = enc10 ms ++ q) :
    (delivers (obs (feedAll false init segs))).length ≤ ms.length :=
  Framing10.no_early10 ms q segs hf hq h

/-! ## 1.1 -/

/-- Segmentation independence, 1.1, for ALL byte streams (valid or not). -/
theorem seg_indep11 (segs₁ segs₂ : List Bytes) (h : segs₁.flatten = segs₂.flatten) :
    obs (feedAll true init segs₁) = obs (feedAll true init segs₂) :=
  Framing11.seg_indep11 segs₁ segs₂ h

/-- Round trip, 1.1: every chunking at octet granularity (chunk borders inside a multi-byte
    character included) and every segmentation into reads. -/
theorem decode_encode11 (mss : List (List Bytes)) (segs : List Bytes)
    (hw : WF mss) (h : segs.flatten = enc11 mss) :
    obs (feedAll true init segs) = outcomes present11 (mss.map List.flatten) :=
  Framing11.decode_encode11 mss segs hw h

/-- No early delivery and no spurious error, 1.1: while the next message is incomplete exactly the
    complete ones have been dispatched. -/
theorem no_early11 (mss : List (List Bytes)) (q : Bytes) (segs : List Bytes)
    (hw : WF mss) (hq : PartialMsg q) (h : segs.flatten = enc11 mss ++ q) :
    obs (feedAll true init segs) = outcomes present11 (mss.map List.flatten) :=
  Framing11.no_early11 mss q segs hw hq h

/-! ## Session level: what listeners are handed is what the framing layer produced -/

section SessionLevel
open NcVerif.Session NcVerif.SessionSpec

/-- The worker hands to `_dispatch_message` exactly the messages the parser delivers for the bytes
    read, in order — whatever the segmentation — as long as no listener failed on the way (the
    receive iterations all end back in the loop).  Together with `spec10` / `seg_indep11` /
    `decode_encode*`: registered listeners see exactly the stream's messages, once each, in order. -/
theorem received_is_framing (env : Env) (w : World) (segs : List Bytes)
    (hs : w.pc = .select) (hne : ∀ s ∈ segs, s ≠ [])
    (hok : (readSegs env w segs).pc = .select) :
    (readSegs env w segs).received =
      w.received ++ delivers (obs (feedAll w.base11 w.parser segs)) ∧
    hasRaise (obs (feedAll w.base11 w.parser segs)) = false :=
  SessionC.received_is_framing env segs w hs hne hok

/-- …hence independent of how the same bytes were cut into reads. -/
theorem received_seg_indep (env : Env) (w : World) (segs₁ segs₂ : List Bytes)
    (hs : w.pc = .select) (hp : w.parser = Framing.init)
    (hne₁ : ∀ s ∈ segs₁, s ≠ []) (hne₂ : ∀ s ∈ segs₂, s ≠ []) (hf : segs₁.flatten = segs₂.flatten)
    (hok₁ : (readSegs env w segs₁).pc = .select) (hok₂ : (readSegs env w segs₂).pc = .select) :
    (readSegs env w segs₁).received = (readSegs env w segs₂).received := by
  rw [(received_is_framing env w segs₁ hs hne₁ hok₁).1, (received_is_framing env w segs₂ hs hne₂ hok₂).1, hp]
  cases hb : w.base11
  · rw [seg_indep10 segs₁ segs₂ hf]
  · rw [seg_indep11 segs₁ segs₂ hf]

end SessionLevel

/-! ## Non-vacuity -/

-- a two-message non-ASCII 1.0 stream cut inside `é` (c3|a9) and inside the delimiter
example : obs (feedAll false init [[0x3c, 0x61, 0x3e, 0xc3], [0xa9, 0x5d, 0x5d, 0x3e, 0x5d], [0x5d, 0x3e, 0x20, 0x62, 0x5d, 0x5d, 0x3e, 0x5d, 0x5d, 0x3e]])
    = [.deliver "<a>é".toList, .deliver "b".toList] := by decide +kernel
-- the same bytes in one read
example : obs (feedAll false init [[0x3c, 0x61, 0x3e, 0xc3, 0xa9, 0x5d, 0x5d, 0x3e, 0x5d, 0x5d, 0x3e, 0x20, 0x62, 0x5d, 0x5d, 0x3e, 0x5d, 0x5d, 0x3e]])
    = [.deliver "<a>é".toList, .deliver "b".toList] := by decide +kernel
-- 1.1: "é" sent as two one-octet chunks, read cut inside a chunk header
example : obs (feedAll true init [[0x0a, 0x23, 0x31], [0x0a, 0xc3, 0x0a, 0x23, 0x31, 0x0a, 0xa9, 0x0a, 0x23], [0x23, 0x0a]])
    = [.deliver "é".toList] := by decide +kernel
example : Frameable10 [0x3c, 0x61, 0x3e] := by decide
example : ¬ Frameable10 [0x5d, 0x5d, 0x3e] := by decide
example : WF [[[0xc3], [0xa9]]] := by decide

-- session level: a started 1.0 session (its hello written) at `select`; the stream "n]]>]]>r1]]>]]>" cut inside the delimiter
-- comes back to `select` with both messages received, in order
example :
    let w := Session.run C03demo.env Session.init [.kAddListeners, .kSendHello [0x68], .kStart, .wTop true, .wWrite 2, .wWrite 1, .wWrite 10, .wTop false]
    w.pc = .select ∧
    (NcVerif.SessionSpec.readSegs C03demo.env w [[0x6e, 0x5d, 0x5d], [0x3e, 0x5d, 0x5d, 0x3e, 0x72, 0x31, 0x5d], [0x5d, 0x3e, 0x5d, 0x5d, 0x3e]]).pc = .select ∧
    (NcVerif.SessionSpec.readSegs C03demo.env w [[0x6e, 0x5d, 0x5d], [0x3e, 0x5d, 0x5d, 0x3e, 0x72, 0x31, 0x5d], [0x5d, 0x3e, 0x5d, 0x5d, 0x3e]]).received
      = ["n".toList, "r1".toList] := by decide +kernel

end NcVerif.C01
