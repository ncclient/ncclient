/-
  C15 — peer authentication precedes credentials and NETCONF traffic.
  Ordering and decision logic of the connect sequences, for every configuration (`Cfg`: any number of
  credentials and subsystem candidates).  PARTIAL: the cryptographic verdicts themselves (key
  equality, signature / certificate-chain validation) are paramiko's / OpenSSL's and enter as the
  environment's answers; the correspondence run drives the real connect code over the whole finite
  configuration table against a recording transport, and real TLS handshakes with a wrong CA.
-/
import NcVerif.Proofs.Connect
namespace NcVerif.C15
open NcVerif NcVerif.Connect

def isAuth : Ev → Bool | .auth _ _ => true | _ => false
def isNetconf : Ev → Bool | .hello => true | .subsystem _ _ => true | .openSession => true | _ => false

/-- The server key is acceptable: pinned key matches, or (no pinned key) known_hosts has it under the
    host or the [host]:port entry, or the unknown-host callback accepts it. -/
def Accepted (c : Cfg) : Prop :=
  c.pinned = .matching ∨ (c.pinned = .absent ∧ (c.known = .underHost ∨ c.known = .underHostPort)) ∨ c.cbAccepts = true

open NcVerif.ConnectP

/-- `_auth` emits nothing but credential offers … -/
theorem authTrace_only_auth (i : Nat) (l : List Bool) : ∀ e ∈ (authTrace i l).1, isAuth e = true := fun e he => by
  obtain ⟨j, ok, rfl⟩ := authTrace_events i l e he; rfl

/-- … and the subsystem requests after it contain none. -/
theorem subsystemTrace_no_auth (i : Nat) (l : List Bool) : ∀ e ∈ (subsystemTrace i l).1, isAuth e = false := by
  intro e he
  rcases subsystemTrace_events i l e he with rfl | ⟨_, _, rfl⟩ | ⟨rfl, -⟩ <;> rfl

private theorem subsystemTrace_no_keyCheck (i : Nat) (l : List Bool) (k : Bool) :
    Ev.keyCheck k ∉ (subsystemTrace i l).1 := by
  intro he
  rcases subsystemTrace_events i l _ he with h | ⟨_, _, h⟩ | ⟨h, -⟩ <;> cases h

private theorem keyPhase_other (c : Cfg) (e : Ev) (he : e ∈ (keyPhase c).1) :
    isAuth e = false ∧ isNetconf e = false := by
  rcases keyPhase_events c e he with ⟨_, rfl⟩ | ⟨_, rfl⟩ <;> exact ⟨rfl, rfl⟩

private theorem authTrace_no_netconf (i : Nat) (l : List Bool) (e : Ev) (he : e ∈ (authTrace i l).1) :
    isNetconf e = false := by
  obtain ⟨_, _, rfl⟩ := authTrace_events i l e he
  rfl

private theorem accepted_iff (c : Cfg) (hv : c.verify = true) : Accepted c ↔ (keyPhase c).2 = true := by
  unfold Accepted keyPhase isKnown
  cases c.pinned <;> cases c.cbAccepts <;> simp [hv, apply_ite Prod.snd]

/-- With host-key verification on, a credential is offered only if the server key was accepted. -/
theorem verify_before_auth (c : Cfg) (hv : c.verify = true)
    (h : ∃ e ∈ (sshTrace c).1, isAuth e = true) : Accepted c := by
  obtain ⟨e, he, ha⟩ := h
  rcases (mem_sshTrace c e).1 he with rfl | ⟨-, he | ⟨hk, -⟩⟩
  · cases ha
  · rw [(keyPhase_other c e he).1] at ha; cases ha
  · exact (accepted_iff c hv).2 hk

/-- Otherwise connect raises the unknown-host error and offers no credential, opens no channel,
    exchanges no NETCONF message. -/
theorem unknown_raises (c : Cfg) (hv : c.verify = true) (hn : c.negotiates = true) (h : ¬ Accepted c) :
    (sshTrace c).2 = .unknownHost ∧ ∀ e ∈ (sshTrace c).1, isAuth e = false ∧ isNetconf e = false := by
  have hk : (keyPhase c).2 = false := by simpa [accepted_iff c hv] using h
  refine ⟨by simp [sshTrace_eq, hn, hk], fun e he => ?_⟩
  rcases (mem_sshTrace c e).1 he with rfl | ⟨-, he | ⟨hk', -⟩⟩
  · exact ⟨rfl, rfl⟩
  · exact keyPhase_other c e he
  · rw [hk] at hk'; cases hk'

/-- Every credential is offered after the key check (position in the trace). -/
theorem check_precedes_auth (c : Cfg) (hv : c.verify = true) (pre post : List Ev) (i : Nat) (ok : Bool)
    (h : (sshTrace c).1 = pre ++ .auth i ok :: post) : ∃ k, Ev.keyCheck k ∈ pre := by
  have hm : Ev.auth i ok ∈ (sshTrace c).1 := by simp [h]
  rcases (mem_sshTrace c _).1 hm with h0 | ⟨hn, -⟩
  · cases h0
  -- the key check is the second event of the trace, and a credential is neither the first nor the second
  obtain ⟨l, hl⟩ := keyPhase_verify c hv
  rw [sshTrace_eq, hn, if_pos rfl, hl] at h
  rcases pre with _ | ⟨_, _ | ⟨_, pre⟩⟩
  · cases h
  · cases h
  · injection h with _ h
    injection h with hk _
    subst hk
    exact ⟨_, List.mem_cons_of_mem _ (List.mem_cons_self ..)⟩

/-- Failed client authentication raises the authentication error; no NETCONF message is exchanged. -/
theorem authfail_no_netconf (c : Cfg) (h : ∀ ok ∈ c.auths, ok = false) (hr : (sshTrace c).2 ≠ .negotiationFailed)
    (hu : (sshTrace c).2 ≠ .unknownHost) :
    (sshTrace c).2 = .authenticationError ∧ ∀ e ∈ (sshTrace c).1, isNetconf e = false := by
  have hf := authTrace_all_false 0 c.auths h
  constructor
  · rw [sshTrace_eq] at hr hu ⊢
    cases hn : c.negotiates <;> cases hk : (keyPhase c).2 <;> simp [hn, hk, hf] at hr hu ⊢
  · intro e he
    rcases (mem_sshTrace c e).1 he with rfl | ⟨-, he | ⟨-, he | ⟨ha, -⟩⟩⟩
    · rfl
    · exact (keyPhase_other c e he).2
    · exact authTrace_no_netconf _ _ e he
    · rw [hf] at ha; cases ha

/-- NETCONF traffic only after a successful authentication. -/
theorem hello_after_auth (c : Cfg) (h : Ev.hello ∈ (sshTrace c).1) :
    (sshTrace c).2 = .connected ∧ ∃ i, Ev.auth i true ∈ (sshTrace c).1 := by
  rcases (mem_sshTrace c _).1 h with h | ⟨hn, h | ⟨hk, h | ⟨ha, h⟩⟩⟩
  · cases h
  · cases (keyPhase_other c _ h).2
  · cases authTrace_no_netconf _ _ _ h
  · rcases subsystemTrace_events _ _ _ h with h | ⟨_, _, h⟩ | ⟨-, hs⟩
    · cases h
    · cases h
    · obtain ⟨j, hj⟩ := authTrace_true_mem _ _ ha
      exact ⟨by simp [sshTrace_eq, hn, hk, ha, hs], j, (mem_sshTrace c _).2 (.inr ⟨hn, .inr ⟨hk, .inl hj⟩⟩)⟩

/-- A pinned key makes known_hosts irrelevant: only the pinned key (or the callback) can accept. -/
theorem pinned_overrides_known_hosts (c : Cfg) (k : Known) :
    c.pinned ≠ .absent → isKnown { c with known := k } = isKnown c := by
  intro hp
  unfold isKnown
  cases hpin : c.pinned <;> simp_all

private theorem tlsTrace_cases (c : TlsCfg) :
    (tlsTrace c).2 = .tlsError ∧ TlsEv.hello ∉ (tlsTrace c).1 ∨
    c.handshakeOk = true ∧ tlsTrace c = ([.context true, .tcp, .handshake true, .hello], .connected) := by
  unfold tlsTrace
  cases (c.hasHost && c.hasCert && c.hasProtocol) <;> cases c.tcpConnects <;> cases c.handshakeOk <;> simp

/-- TLS: the certificate is REQUIRED and verified in the handshake before any NETCONF message; a
    failed handshake raises TLSError with nothing written. -/
theorem tls_handshake_before_hello (c : TlsCfg) (h : TlsEv.hello ∈ (tlsTrace c).1) :
    c.handshakeOk = true ∧ (tlsTrace c).1 = [.context true, .tcp, .handshake true, .hello] ∧ (tlsTrace c).2 = .connected := by
  rcases tlsTrace_cases c with ⟨-, hn⟩ | ⟨ho, he⟩
  · exact absurd h hn
  · exact ⟨ho, by rw [he], by rw [he]⟩

theorem tls_failure_is_error (c : TlsCfg) (h : c.handshakeOk = false) :
    (tlsTrace c).2 = .tlsError ∧ TlsEv.hello ∉ (tlsTrace c).1 := by
  rcases tlsTrace_cases c with he | ⟨ho, -⟩
  · exact he
  · rw [h] at ho; cases ho

/-! Non-vacuity -/
def demo : Cfg := { verify := true, known := .differentKey, pinned := .absent, cbAccepts := false, negotiates := true,
                    auths := [false, true], subsystems := [true] }
example : sshTrace demo = ([.startClient, .keyCheck false, .callback false], .unknownHost) := by decide
example : sshTrace { demo with known := .underHostPort } =
    ([.startClient, .keyCheck true, .auth 0 false, .auth 1 true, .openSession, .subsystem 0 true, .hello], .connected) := by decide
example : ¬ Accepted demo := by unfold Accepted demo; decide

end NcVerif.C15
