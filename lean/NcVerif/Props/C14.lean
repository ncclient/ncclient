/-
  C14 — malformed or hostile server input cannot corrupt or wedge a session (framing part).

  All statements are for ARBITRARY byte streams and segmentations.
  (The session-level clauses — pending requests failed, session marked disconnected whenever the
  worker stops — are in the second half of this file, over Model/Session.)
-/
import NcVerif.Proofs.Framing10
import NcVerif.Proofs.Framing11
import NcVerif.Proofs.SessionA
namespace NcVerif.C14
open NcVerif NcVerif.Framing NcVerif.FramingSpec

/-- Shape of every run: some deliveries followed by at most one error, which is last. -/
def RunShape (outs : List Out) (texts : List Str) : Prop :=
  outs = texts.map .deliver ∨ ∃ k, outs = texts.map .deliver ++ [.raise k]

/-- 1.1 soundness: whatever bytes arrive, in whatever reads, the messages dispatched are the decoded
    payloads of correctly framed RFC 6242 messages that form a prefix of the stream, in stream
    order — none invented, merged, duplicated or reordered — followed by at most one error. -/
theorem delivered_sound11 (segs : List Bytes) :
    ∃ mss : List (List Bytes), WF mss ∧ enc11 mss <+: segs.flatten ∧
      ∃ texts, (mss.map List.flatten).map present11 = texts.map some ∧
        RunShape (obs (feedAll true init segs)) texts := by
  obtain ⟨mss, hw, hp, texts, ht, hs⟩ := Framing11.delivered_sound11 segs
  exact ⟨mss, hw, hp, texts, by rw [List.map_map]; exact ht, hs⟩

/-- 1.0 soundness: the messages dispatched are the decoded, stripped payloads of a prefix of the
    stream's `]]>]]>`-terminated pieces, in order, followed by at most one (decode) error. -/
theorem delivered_sound10 (segs : List Bytes) :
    ∃ ps : List Bytes, (∀ p ∈ ps, Frameable10 p) ∧ enc10 ps <+: segs.flatten ∧
      ∃ texts, ps.map present10 = texts.map some ∧
        RunShape (obs (feedAll false init segs)) texts :=
  Framing10.delivered_sound10 segs

/-- No stall, 1.1: a run that has not raised is never wedged — some continuation of the stream makes
    the parser produce one more output (a delivery, or an error: e.g. after `\n##` with no chunk
    every continuation raises).  There is no state in which it silently waits for ever. -/
theorem no_stall11 (segs : List Bytes) (h : hasRaise (obs (feedAll true init segs)) = false) :
    ∃ ext : Bytes, (obs (feedAll true init (segs ++ [ext]))).length >
      (obs (feedAll true init segs)).length :=
  Framing11.no_stall11 segs h

/-- Bytes that cannot start a delimiter where one is expected raise a framing error at once. -/
theorem bad_header_raises (mss : List (List Bytes)) (junk : Bytes) (segs : List Bytes)
    (hw : WF mss) (hd : ∀ cs ∈ mss, Utf8.valid cs.flatten = true) (hj : token junk = .bad)
    (h : segs.flatten = enc11 mss ++ junk) :
    obs (feedAll true init segs) = (mss.map fun cs => .deliver ((Utf8.decode cs.flatten).getD [])) ++ [.raise .framing] :=
  Framing11.bad_header_raises mss junk segs hw hd hj h

/-! Non-vacuity -/
-- garbage where a chunk header is expected: error, not a wait
example : obs (feedAll true init [[0x0a, 0x23, 0x31, 0x0a, 0x78, 0x78]]) = [.raise .framing] := by decide +kernel
-- chunk-size 0 and leading zeros are not RFC 6242 framing
example : obs (feedAll true init [[0x0a, 0x23, 0x30, 0x0a]]) = [.raise .framing] := by decide +kernel
example : token [0x0a, 0x23, 0x30, 0x31] = .bad := by decide
-- end-of-chunks without a chunk
example : obs (feedAll true init [[0x0a, 0x23, 0x23, 0x0a]]) = [.raise .framing] := by decide +kernel
-- invalid UTF-8 payload: decode error, nothing delivered
example : obs (feedAll true init [[0x0a, 0x23, 0x31, 0x0a, 0xff, 0x0a, 0x23, 0x23, 0x0a]]) = [.raise .decode] := by decide +kernel
example : hasRaise (obs (feedAll true init [[0x0a, 0x23, 0x35, 0x0a, 0x78]])) = false := by decide +kernel

/-! ## Session level (Model/Session): whatever ends the worker, the session is released -/

section SessionLevel
open NcVerif.Session NcVerif.SessionSpec

/-- A framing or decoding error found by the parser puts the worker on its error path: the message
    is not dispatched, nothing after it is. -/
theorem parser_error_fails_session (env : Env) (w : World) (k : ErrKind) (rest : List Out)
    (h : w.pc = .dispatching (.raise k :: rest)) :
    ∃ e, (step env w .wDispatch).pc = .failing e ∧ (step env w .wDispatch).received = w.received ∧
         (step env w .wDispatch).rpcs = w.rpcs ∧ (step env w .wDispatch).notifQ = w.notifQ :=
  SessionA.parser_error_fails_session env w k rest h

/-- A payload the XML library cannot parse (and the device handler does not rescue) is dropped:
    it reaches no request and no queue, and the session goes on. -/
theorem bad_payload_not_delivered (env : Env) (w : World) (raw : Str) (h : env.classify raw = .drop) :
    (dispatchMessage env w raw).1.rpcs = w.rpcs ∧ (dispatchMessage env w raw).1.notifQ = w.notifQ ∧
    (dispatchMessage env w raw).1.id2rpc = w.id2rpc ∧ (dispatchMessage env w raw).2 = none :=
  SessionA.bad_payload_not_delivered env w raw h

/-- The worker can stop in two ways only: after its error path, or after a local close. -/
theorem stop_paths (env : Env) (w : World) (op : Op) (h : w.pc ≠ .stopped)
    (h' : (step env w op).pc = .stopped) :
    (op = .wCloseSelf ∧ w.pc = .closingSelf) ∨ (op = .wExit ∧ w.pc = .exiting) :=
  SessionA.stop_paths env w op h h'

/-- Whenever the worker has stopped — for ANY reason, in any history — the session is closing, the
    final error has been delivered, every request that existed then has been failed or answered,
    and the session is (or, for a close still in progress in a client thread, is about to be)
    marked disconnected. -/
theorem worker_stop_invariant (env : Env) (ops : List Op) :
    (run env init ops).pc = .stopped →
      (run env init ops).closing = true ∧ (run env init ops).errbackDone = true ∧
      (∀ r ∈ (run env init ops).rpcs, r.event = true ∨ r.lateBorn = true) ∧
      (step env (run env init ops) .cCloseEnd).connected = false :=
  SessionA.worker_stop_invariant env ops

/-- …and a stopped worker dispatches nothing any more. -/
theorem stopped_is_final (env : Env) (w : World) (op : Op) (h : w.pc = .stopped) (hw : isWorkerOp op = true) :
    step env w op = w :=
  SessionA.stopped_is_final env w op h hw

end SessionLevel

end NcVerif.C14
