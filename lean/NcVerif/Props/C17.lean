/-
  C17 — XML helper round-trips (ncclient/xml_.py).
  PARTIAL: proved here are the helpers' own logic on trees (namespace replacement, root validation,
  declaration handling), the escaping discipline for all strings, and the tree-level round trip
  `parseDoc (serialize t) = some t` for every well-formed namespace-free tree, where `serialize` /
  `parseDoc` (Model/XmlDoc.lean) MODEL lxml's serialiser and an XML 1.0 reader and are compared with
  `to_xml` byte for byte and with expat on every run.  Namespace prefixes, comments, PIs, CDATA and DTDs
  stay correspondence results on generated documents.
-/
import NcVerif.Proofs.Chars
import NcVerif.Proofs.Xml
import NcVerif.Proofs.XmlText
import NcVerif.Proofs.XmlDoc
namespace NcVerif.C17
open NcVerif NcVerif.Xml NcVerif.XmlText

mutual
/-- Element names in document order. -/
def tagsOf : Node → List QName
  | .elem tag _ children => tag :: tagsOfList children
  | _ => []
def tagsOfList : List Node → List QName
  | [] => []
  | n :: ns => tagsOf n ++ tagsOfList ns
end

mutual
/-- Everything that is not an element name or an attribute: text, comments, PIs, and the nesting
    skeleton, in document order. -/
def skeleton : Node → Node
  | .elem _ _ children => .elem ⟨none, []⟩ [] (skeletonList children)
  | n => n
def skeletonList : List Node → List Node
  | [] => []
  | n :: ns => skeleton n :: skeletonList ns
end

mutual
def attrsOf : Node → List (List (QName × Str))
  | .elem _ attrs children => attrs :: attrsOfList children
  | _ => []
def attrsOfList : List Node → List (List (QName × Str))
  | [] => []
  | n :: ns => attrsOf n ++ attrsOfList ns
end

mutual
/-- Namespace replacement renames exactly the ELEMENTS of the old namespace: same elements, same
    order, same local names; an element is moved iff its namespace was `old`. -/
theorem replaceNs_tags (old new : Option Str) (t : Node) :
    tagsOf (replaceNs old new t) = (tagsOf t).map (renameQ old new) := by
  match t with
  | .elem tag attrs children =>
    rw [replaceNs, tagsOf, tagsOf, List.map_cons, tagsOfList_replaceNsList old new children]
  | .text _ | .comment _ | .pi _ _ => rfl
private theorem tagsOfList_replaceNsList (old new : Option Str) : ∀ l : List Node,
    tagsOfList (replaceNsList old new l) = (tagsOfList l).map (renameQ old new)
  | [] => rfl
  | n :: ns => by
    rw [replaceNsList, tagsOfList, tagsOfList, List.map_append, replaceNs_tags old new n,
      tagsOfList_replaceNsList old new ns]
end

mutual
/-- …and leaves text, tails, comments, processing instructions and the nesting untouched. -/
theorem replaceNs_skeleton (old new : Option Str) (t : Node) :
    skeleton (replaceNs old new t) = skeleton t := by
  match t with
  | .elem tag attrs children =>
    rw [replaceNs, skeleton, skeleton, skeletonList_replaceNsList old new children]
  | .text _ | .comment _ | .pi _ _ => rfl
private theorem skeletonList_replaceNsList (old new : Option Str) : ∀ l : List Node,
    skeletonList (replaceNsList old new l) = skeletonList l
  | [] => rfl
  | n :: ns => by
    rw [replaceNsList, skeletonList, skeletonList, replaceNs_skeleton old new n,
      skeletonList_replaceNsList old new ns]
end

/-- …and renames exactly the ATTRIBUTES of the old namespace, keeping every value — for each
    element whose attributes do not collide after renaming (two attributes `{old}a` and `{new}a` on
    one element cannot both survive; such inputs are run on the real code as a class of their own). -/
theorem replaceAttrs_exact (old new : Option Str) (attrs : List (QName × Str))
    (hn : (attrs.map (·.1)).Nodup) (hc : (attrs.map (fun a => renameQ old new a.1)).Nodup) (q : QName) (v : Str) :
    (q, v) ∈ replaceAttrs old new attrs ↔ ∃ q0, (q0, v) ∈ attrs ∧ q = renameQ old new q0 := by
  have _ := hn  -- not needed: it follows from `hc`
  rw [XmlP.replaceAttrs_nocollide old new attrs hc, List.mem_append, List.mem_filter, List.mem_map]
  constructor
  · rintro (⟨hm, hns⟩ | ⟨⟨q0, v0⟩, ha, heq⟩)
    · exact ⟨q, hm, (XmlP.renameQ_of_not_ns old new q (of_decide_eq_true hns)).symm⟩
    · cases heq
      exact ⟨q0, (List.mem_filter.1 ha).1, rfl⟩
  · rintro ⟨q0, hm, rfl⟩
    by_cases h : q0.ns = old
    · exact .inr ⟨(q0, v), List.mem_filter.2 ⟨hm, decide_eq_true h⟩, rfl⟩
    · rw [XmlP.renameQ_of_not_ns old new q0 h]
      exact .inl ⟨hm, decide_eq_true h⟩

mutual
theorem replaceNs_attrs (old new : Option Str) (t : Node) :
    attrsOf (replaceNs old new t) = (attrsOf t).map (replaceAttrs old new) := by
  match t with
  | .elem tag attrs children =>
    rw [replaceNs, attrsOf, attrsOf, List.map_cons, attrsOfList_replaceNsList old new children]
  | .text _ | .comment _ | .pi _ _ => rfl
private theorem attrsOfList_replaceNsList (old new : Option Str) : ∀ l : List Node,
    attrsOfList (replaceNsList old new l) = (attrsOfList l).map (replaceAttrs old new)
  | [] => rfl
  | n :: ns => by
    rw [replaceNsList, attrsOfList, attrsOfList, List.map_append, replaceNs_attrs old new n,
      attrsOfList_replaceNsList old new ns]
end

/-- A name is renamed iff it was in the old namespace; its local name never changes. -/
theorem renameQ_spec (old new : Option Str) (q : QName) :
    (renameQ old new q).name = q.name ∧ (q.ns = old → (renameQ old new q).ns = new) ∧ (q.ns ≠ old → renameQ old new q = q) :=
  ⟨XmlP.renameQ_name old new q, XmlP.renameQ_of_ns old new q, XmlP.renameQ_of_not_ns old new q⟩

/-- Root validation accepts exactly the documents whose root is an element with an allowed tag
    (any tag if none is given) and, for every requirement, at least one of the alternative attributes. -/
theorem validated_iff (tags : List QName) (reqs : List (List QName)) (tag : QName) (attrs : List (QName × Str)) (ch : List Node) :
    validated tags reqs (.elem tag attrs ch) = true ↔
      (tags = [] ∨ tag ∈ tags) ∧ ∀ alts ∈ reqs, ∃ a ∈ alts, ∃ v, (a, v) ∈ attrs := by
  simp only [validated, Bool.and_eq_true, Bool.or_eq_true, List.isEmpty_iff, List.contains_iff_mem,
    List.all_eq_true, List.any_eq_true, decide_eq_true_eq]
  -- the two sides differ only in how they say that `attrs` has an entry named `a`
  refine and_congr_right fun _ => forall_congr' fun alts => imp_congr_right fun _ => exists_congr fun a =>
    and_congr_right fun _ => ?_
  exact ⟨fun ⟨p, hp, hpa⟩ => ⟨p.2, hpa ▸ hp⟩, fun ⟨v, hv⟩ => ⟨(a, v), hv, rfl⟩⟩

theorem validated_non_element (tags : List QName) (reqs : List (List QName)) (s : Str) :
    validated tags reqs (.text s) = false ∧ validated tags reqs (.comment s) = false :=
  ⟨rfl, rfl⟩

/-- The serialised form carries exactly one XML declaration: one is added iff there is none, and
    applying the rule twice adds nothing. -/
theorem one_declaration (decl s : Str) (hd : declPrefix.isPrefixOf decl = true) :
    declPrefix.isPrefixOf (addDecl decl s) = true ∧ addDecl decl (addDecl decl s) = addDecl decl s ∧
    (declPrefix.isPrefixOf s = true → addDecl decl s = s) ∧ (declPrefix.isPrefixOf s = false → addDecl decl s = decl ++ s) := by
  have hpre : declPrefix.isPrefixOf (decl ++ s) = true := by
    rw [List.isPrefixOf_iff_prefix] at hd ⊢
    exact hd.trans (List.prefix_append decl s)
  have h1 : declPrefix.isPrefixOf (addDecl decl s) = true := by
    unfold addDecl
    split
    · assumption
    · exact hpre
  refine ⟨h1, ?_, ?_, ?_⟩
  · rw [addDecl, if_pos h1]
  · intro h; rw [addDecl, if_pos h]
  · intro h; rw [addDecl, h]; rfl

/-- Tree-level round trip (names, attributes in order, text, tail, child order): reading what the
    serialiser wrote gives back exactly the tree — for every well-formed namespace-free tree, whatever
    strings sit in its text and attribute positions. -/
theorem tree_roundtrip (n : Str) (attrs : List (Str × Str)) (cs : List XmlDoc.XNode)
    (hw : XmlDoc.wf (.elem n attrs cs) = true) :
    XmlDoc.parseDoc (XmlDoc.serialize (.elem n attrs cs)) = some (.elem n attrs cs) :=
  XmlDocP.parseDoc_serialize_node _ hw

/-- Serialise, parse, serialise again: the second serialisation equals the first (what `to_xml ∘ to_ele ∘ to_xml` gives). -/
theorem serialise_idempotent (n : Str) (attrs : List (Str × Str)) (cs : List XmlDoc.XNode)
    (hw : XmlDoc.wf (.elem n attrs cs) = true) :
    (XmlDoc.parseDoc (XmlDoc.serialize (.elem n attrs cs))).map XmlDoc.serialize = some (XmlDoc.serialize (.elem n attrs cs)) := by
  rw [XmlDocP.parseDoc_serialize_node _ hw]; rfl

/-- The root-only parse (`parse_root`, which looks at the start tag alone) agrees with the full parse on the root's name and
    attributes — for EVERY document text the full parse accepts, not only for serialisations. -/
theorem root_only_agrees_with_full_parse (s : Str) (t : XmlDoc.XNode) (h : XmlDoc.parseDoc s = some t) (hs : s.head? = some '<') :
    XmlDoc.parseRoot s = XmlDoc.rootOf t :=
  have _ := hs  -- not needed: `parseDoc` accepts nothing else
  XmlDocP.parseRoot_agrees s t h

/-- In particular on whatever the serialiser wrote: name and attributes (in order, values unescaped) of the tree's root. -/
theorem root_of_serialisation (n : Str) (attrs : List (Str × Str)) (cs : List XmlDoc.XNode)
    (hw : XmlDoc.wf (.elem n attrs cs) = true) :
    XmlDoc.parseRoot (XmlDoc.serialize (.elem n attrs cs)) = some (n, attrs) := by
  rw [XmlDocP.parseRoot_agrees _ _ (XmlDocP.parseDoc_serialize_node _ hw)]; rfl

example : XmlDoc.parseRoot "<rpc-reply message-id=\"a&lt;1\" x=\"2\"><ok/><never closed".toList
    = some ("rpc-reply".toList, [("message-id".toList, "a<1".toList), ("x".toList, "2".toList)]) := by
  decide_chars

/-- Character data written by the serialiser is read back unaltered by any XML parser (from C07). -/
theorem chardata_roundtrip (s : Str) : parseText (escapeText s) = some s ∧ parseAttr (escapeAttr s) = some s :=
  ⟨XmlTextP.parseText_escapeText s, XmlTextP.parseAttr_escapeAttr s⟩

/-! Non-vacuity -/
def q (n : String) (l : String) : QName := ⟨if n = "" then none else some n.toList, l.toList⟩
def doc : Node := .elem (q "urn:old" "a") [(q "urn:old" "k", "v".toList), (q "" "m", "w".toList)]
  [.text "t".toList, .elem (q "urn:other" "b") [] [], .comment "c".toList, .elem (q "urn:old" "c") [] []]
example : replaceNs (some "urn:old".toList) (some "urn:new".toList) doc =
    .elem (q "urn:new" "a") [(q "" "m", "w".toList), (q "urn:new" "k", "v".toList)]
      [.text "t".toList, .elem (q "urn:other" "b") [] [], .comment "c".toList, .elem (q "urn:new" "c") [] []] := by rfl
example : validated [q "urn:x" "config", q "" "config"] [[q "" "type", q "" "kind"]] (.elem (q "" "config") [(q "" "kind", [])] []) = true := by decide +kernel

example : XmlDoc.wf (.elem "a".toList [("k".toList, "<&\"".toList)] [.text "x\r".toList, .elem "b".toList [] [], .text "]]>".toList]) = true := by decide +kernel
example : XmlDoc.serialize (.elem "a".toList [("k".toList, "<&\"".toList)] [.text "x\r".toList, .elem "b".toList [] [], .text "]]>".toList])
    = "<a k=\"&lt;&amp;&quot;\">x&#13;<b/>]]&gt;</a>".toList := by
  decide_chars

end NcVerif.C17
