/-
  C10 — reply content reaches the caller unaltered.
  PARTIAL: proved are (i) that a request's raw reply is the payload of a correctly framed message
  carrying its message-id (composition of C01/C14 and C03), (ii) the tree-level behaviour of the reply
  transforms (Junos XSLT, ALU remove_namespaces, SR OS pass-through) by induction over all trees, and
  (iii) `data` = the reply's <data> child.  libxml2 / libxslt (parsing, the XSLT engine, the huge-tree
  limits) are the environment: the real transforms run on generated documents in the correspondence.
-/
import NcVerif.Proofs.Xml
import NcVerif.Proofs.SessionC
namespace NcVerif.C10
open NcVerif NcVerif.Xml

/-- Junos: the transformed tree has the same element structure, order, non-blank text, comments,
    PIs and attribute values as the reply — only namespaces and whitespace-only text are gone. -/
theorem stripNs_shape (t : Node) : shapeList (stripNs t) = shape t :=
  XmlP.shapeList_stripNs t

/-- …and really no namespace is left. -/
theorem stripNs_no_ns (t : Node) : hasNsList (stripNs t) = false :=
  XmlP.hasNsList_stripNs t

/-- ALU: element names lose their namespace, nothing else changes. -/
theorem stripElemNs_shape (t : Node) : shape (stripElemNs t) = shape t :=
  XmlP.shape_stripElemNs t

/-- SR OS: pass-through. -/
theorem passthrough_id (t : Node) : passthrough t = t := rfl

/-- The transforms never reorder, drop or duplicate elements: the sequence of local names is unchanged. -/
theorem stripNs_local_names (t : Node) :
    (shapeList (stripNs t)) = shape t ∧ (shape (stripElemNs t)) = shape t :=
  ⟨stripNs_shape t, stripElemNs_shape t⟩

/-- `data_ele`: the first child of the reply root named `{base}data`, which is a child of the root. -/
theorem data_is_child (q : QName) (tag : QName) (attrs : List (QName × Str)) (children : List Node) (d : Node)
    (h : findChild q (.elem tag attrs children) = some d) :
    d ∈ children ∧ ∃ a c, d = .elem q a c := by
  unfold findChild at h
  refine ⟨List.mem_of_find?_eq_some h, ?_⟩
  have hp := List.find?_some h
  match d, hp with
  | .elem t a c, hp => exact ⟨a, c, by rw [of_decide_eq_true hp]⟩

/-- The raw XML held by a request is a message that was received and carries that request's
    message-id (from C03; with C01/C14: received messages are exact payloads of framed messages). -/
theorem raw_is_own_payload (env : Session.Env) (ops : List Session.Op) :
    ∀ r ∈ (Session.run env Session.init ops).rpcs, ∀ raw, r.reply = some raw →
      SessionSpec.isReplyFor env r.id raw :=
  SessionA.own_reply env ops

/-- …and it is one of the messages the framing layer handed over (so, by C01 / C14, the exact payload of a
    correctly framed message of the server's stream). -/
theorem reply_was_received (env : Session.Env) (ops : List Session.Op) :
    ∀ r ∈ (Session.run env Session.init ops).rpcs, ∀ raw, r.reply = some raw →
      raw ∈ (Session.run env Session.init ops).received :=
  Session.run_inv (P := SessionC.StoredReceived) SessionC.StoredReceived.step ops fun _ h => nomatch h

/-! Non-vacuity -/
def q (n : String) (l : String) : QName := ⟨if n = "" then none else some n.toList, l.toList⟩
def reply : Node := .elem (q "urn:b" "rpc-reply") [(q "" "message-id", "1".toList)]
  [.text "\n  ".toList, .elem (q "urn:b" "data") [] [.elem (q "urn:a" "x") [(q "urn:p" "k", "v".toList)] [.text "é".toList], .comment "c".toList]]
example : stripNs reply = [.elem (q "" "rpc-reply") [(q "" "message-id", "1".toList)]
  [.elem (q "" "data") [] [.elem (q "" "x") [(q "" "k", "v".toList)] [.text "é".toList], .comment "c".toList]]] := by rfl
example : (findChild (q "urn:b" "data") reply).isSome = true := by rfl

end NcVerif.C10
