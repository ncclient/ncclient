/-
  C06 — rpc-error surfacing follows raise mode, severity and exemptions.
  Decision logic stated outright, for all replies (any number of rpc-errors, any field values),
  all three raise modes and all exempt pattern lists (strings of any length).
-/
import NcVerif.Proofs.Chars
import NcVerif.Proofs.RpcError
import NcVerif.Model.ReplyDoc
namespace NcVerif.C06
open NcVerif NcVerif.RpcError

/-- PARTIAL (full statement: for ANY reply). `ok` iff the reply carries no rpc-error — for a reply without an `<ok/>` child.
    With one the statement is FALSE of model and code alike (witness below; replayed on the implementation on every run and
    listed as known finding `C06:ok-element-hides-rpc-errors`). -/
theorem ok_iff (errs : List Err) : ok ⟨false, errs⟩ = true ↔ errs = [] := by
  cases errs <;> simp [ok, errors]

/-- The excluded point: a reply with `<ok/>` AND an rpc-error counts as ok, its error list is empty. -/
example : ∃ r : Reply, r.errs ≠ [] ∧ ok r = true ∧ errors r = [] :=
  ⟨⟨true, [{ severity := some "error".toList }]⟩, by decide, by decide, by decide⟩

/-- The error list mirrors the rpc-error elements, in order. -/
theorem errors_mirror (errs : List Err) : errors ⟨false, errs⟩ = errs := rfl

/-- Specification of one exempt pattern (documentation of `_EXEMPT_ERRORS`): case-insensitive,
    `*` at either end. `text` is the lower-cased, stripped message. -/
def Matches (pat : Str) (text : Str) : Prop :=
  let p := lowerAscii pat
  if p.head? = some '*' ∧ p.getLast? = some '*' then ∃ a b, text = a ++ dropLast (p.drop 1) ++ b
  else if p.head? = some '*' then ∃ a, text = a ++ p.drop 1
  else if p.getLast? = some '*' then ∃ b, text = dropLast p ++ b
  else text = p

def textOf (msg : Option Str) : Str := match msg with | some m => pyStrip (lowerAscii m) | none => noErrorGiven

/-- The exemption test is exactly "some pattern matches". -/
theorem exempt_spec (pats : List Str) (msg : Option Str) :
    isExempt (mkPatterns pats) msg = true ↔ ∃ p ∈ pats, Matches p (textOf msg) :=
  RpcErrorP.exempt_spec pats msg

/-- Raise decision: an RPCError is raised iff, among the errors whose message is not exempt, there
    is one at all under ALL, or one of severity `error` under ERRORS. -/
theorem raise_iff (mode : Mode) (pats : List Str) (errs : List Err) :
    (raises mode (mkPatterns pats) ⟨false, errs⟩).isSome = true ↔
      ∃ e ∈ errs, isExempt (mkPatterns pats) e.message = false ∧
        (mode = .all ∨ (mode = .errors ∧ ∃ e' ∈ errs, isExempt (mkPatterns pats) e'.message = false ∧ e'.severity = some sevError)) :=
  RpcErrorP.raises_isSome mode (mkPatterns pats) ⟨false, errs⟩

/-- With no exempt message: ALL ∧ there is an error, or ERRORS ∧ some error has severity `error`. -/
theorem raise_iff_no_exempt (mode : Mode) (pats : List Str) (errs : List Err)
    (h : ∀ e ∈ errs, isExempt (mkPatterns pats) e.message = false) :
    (raises mode (mkPatterns pats) ⟨false, errs⟩).isSome = true ↔
      (mode = .all ∧ errs ≠ []) ∨ (mode = .errors ∧ ∃ e ∈ errs, e.severity = some sevError) := by
  rw [raise_iff]
  constructor
  · rintro ⟨e, he, _, hm | ⟨hm, e', he', _, hs⟩⟩
    · exact Or.inl ⟨hm, List.ne_nil_of_mem he⟩
    · exact Or.inr ⟨hm, e', he', hs⟩
  · rintro (⟨hm, hne⟩ | ⟨hm, e, he, hs⟩)
    · obtain ⟨e, he⟩ := List.exists_mem_of_ne_nil _ hne
      exact ⟨e, he, h e he, Or.inl hm⟩
    · exact ⟨e, he, h e he, Or.inr ⟨hm, e, he, h e he, hs⟩⟩

/-- If every message is exempt nothing is raised, whatever the mode. -/
theorem all_exempt_never (mode : Mode) (pats : List Str) (errs : List Err)
    (h : ∀ e ∈ errs, isExempt (mkPatterns pats) e.message = true) :
    raises mode (mkPatterns pats) ⟨false, errs⟩ = none := by
  rw [RpcErrorP.raises_eq, if_neg]
  rintro ⟨e, he, hex, -⟩
  rw [h e he] at hex
  cases hex

/-- Never under NONE. -/
theorem never_NONE (p : Patterns) (r : Reply) : raises .none p r = none := by
  simp [raises]

/-- What is raised: a single error as it is … -/
theorem raised_single (mode : Mode) (p : Patterns) (e : Err) (x : Raised)
    (h : raises mode p ⟨false, [e]⟩ = some x) : x = .single e := by
  rw [RpcErrorP.raises_eq] at h
  split at h
  · exact (Option.some.inj h).symm
  · cases h

/-- … several as an aggregate carrying ALL of them, whose severity is `error` iff at least one
    constituent's is (else `warning`). -/
theorem aggregate_all (mode : Mode) (p : Patterns) (errs : List Err) (x : Raised)
    (hl : errs.length ≥ 2) (h : raises mode p ⟨false, errs⟩ = some x) :
    ∃ sev, x = .aggregate errs sev ∧ (sev = sevError ↔ ∃ e ∈ errs, e.severity = some sevError) ∧
      (sev = sevError ∨ sev = sevWarning) := by
  rw [RpcErrorP.raises_eq] at h
  split at h
  · split at h
    · rename_i e he
      rw [errors_mirror] at he
      simp [he] at hl
    · exact ⟨_, (Option.some.inj h).symm, RpcErrorP.aggregateSeverity_eq_error errs,
        RpcErrorP.aggregateSeverity_cases errs⟩
  · cases h

/-! Non-vacuity -/
def w1 : Err := { severity := some sevWarning, message := some "w1".toList }
def e2 : Err := { severity := some sevError, message := some "VLAN with the same name exists (x)".toList }
example : (raises .errors (mkPatterns []) ⟨false, [w1, e2]⟩).isSome = true := by decide +kernel
example : raises .all (mkPatterns []) ⟨false, [w1, w1]⟩ = some (.aggregate [w1, w1] sevWarning) := by decide +kernel
example : raises .all (mkPatterns ["*vlan with the same name exists*".toList]) ⟨false, [e2]⟩ = none := by
  unfold e2; decide_chars
example : Matches "*VLAN with the same name exists*".toList (textOf e2.message) := by
  unfold e2; rw [String.toList_ofList, String.toList_ofList]
  exact ⟨[], " (x)".toList, by decide +kernel⟩

/-! ## From the reply DOCUMENT (Model/ReplyDoc: what `RPCReply.parse` / `RPCError.__init__` extract from the tree) -/

section Doc
open NcVerif.XmlDoc NcVerif.ReplyDoc

/-- The error list has one entry per `rpc-error` element, in document order, each built from that
    element's own children. -/
theorem doc_errors_mirror (root : XNode) (hno : (kids root).any (named "ok") = false) :
    errors (ofDoc root) = (errorElems root).map errOf ∧ (errorElems root).Sublist (desc root) := by
  refine ⟨?_, List.filter_sublist⟩
  unfold errors ofDoc; simp [hno]

/-- For every reply document without an `<ok/>` child: `ok` iff NO element of the document — the root
    itself or any descendant, at any depth — is an `rpc-error`. -/
theorem doc_ok_iff_no_rpc_error (root : XNode) (hno : (kids root).any (named "ok") = false) :
    ok (ofDoc root) = true ↔ ∀ d ∈ desc root, named "rpc-error" d = false := by
  rw [ok, (doc_errors_mirror root hno).1, List.isEmpty_iff, List.map_eq_nil_iff, errorElems,
    List.filter_eq_nil_iff]
  simp only [Bool.not_eq_true]

/-- A field that occurs once in an `rpc-error` is reported with exactly that child's text. -/
theorem doc_field_mirrors_child (e c : XNode) (f : String) (h : (kids e).filter (named f) = [c]) :
    textField e f = leadText c := by
  unfold textField lastChild; rw [h]; rfl

/-- The decision on the document is the decision on the extracted list (composition with `raise_iff`). -/
theorem doc_raise_iff (mode : Mode) (pats : List Str) (root : XNode) (hno : (kids root).any (named "ok") = false) :
    (raises mode (mkPatterns pats) (ofDoc root)).isSome = true ↔
      ∃ e ∈ (errorElems root).map errOf, isExempt (mkPatterns pats) e.message = false ∧
        (mode = .all ∨ (mode = .errors ∧ ∃ e' ∈ (errorElems root).map errOf,
          isExempt (mkPatterns pats) e'.message = false ∧ e'.severity = some sevError)) := by
  rw [← (doc_errors_mirror root hno).1]
  exact RpcErrorP.raises_isSome mode (mkPatterns pats) (ofDoc root)

example : (errors (ofDoc (.elem "rpc-reply".toList [] [.elem "data".toList [] [.elem "rpc-error".toList []
    [.elem "error-severity".toList [] [.text "warning".toList], .elem "error-message".toList [] [.text "m1".toList],
     .elem "error-message".toList [] [.text "m2".toList]]]]))).map (·.message) = [some "m2".toList] := by decide +kernel
end Doc

end NcVerif.C06
