/-
  C08 — capability lookup semantics and totality.

  All statements are for arbitrary URI lists and arbitrary keys (strings of any length over all code points).
-/
import NcVerif.Proofs.Chars
import NcVerif.Proofs.Caps
namespace NcVerif.C08
open NcVerif NcVerif.Caps

/-- The part of a URI in front of its first `?` (what the parameters are stripped from). -/
def nsPart (uri : Str) : Str := uri.takeWhile (· ≠ '?')

/-- Grammar specification of the shorthand forms, written from RFC 6241 §10.x URN shapes and
    independently of the code: `key` is a shorthand of namespace URI `ns`. -/
inductive Shorthand : Str → Str → Prop
  | capName (p name ver rest : Str) : p ∈ prefixes → ':' ∉ name → ':' ∉ ver →
      (rest = [] ∨ ∃ r, rest = ':' :: r) →
      Shorthand (':' :: name) (p ++ (sCapability ++ ':' :: (name ++ ':' :: (ver ++ rest))))
  | capNameVer (p name ver rest : Str) : p ∈ prefixes → ':' ∉ name → ':' ∉ ver →
      (rest = [] ∨ ∃ r, rest = ':' :: r) →
      Shorthand (':' :: name ++ ':' :: ver) (p ++ (sCapability ++ ':' :: (name ++ ':' :: (ver ++ rest))))
  | base (p ver rest : Str) : p ∈ prefixes → ':' ∉ ver → (rest = [] ∨ ∃ r, rest = ':' :: r) →
      Shorthand sColonBase (p ++ (sBase ++ ':' :: (ver ++ rest)))
  | baseVer (p ver rest : Str) : p ∈ prefixes → ':' ∉ ver → (rest = [] ∨ ∃ r, rest = ':' :: r) →
      Shorthand (sColonBase ++ ':' :: ver) (p ++ (sBase ++ ':' :: (ver ++ rest)))

/-- `_abbreviate` computes exactly the grammar's shorthands. -/
theorem abbreviate_spec (key ns : Str) : key ∈ abbreviate ns ↔ Shorthand key ns := by
  rw [mem_abbreviate_iff]
  constructor
  · rintro ⟨p, hp, l, ⟨r, rfl, hl⟩, hk⟩
    -- the pieces of the split, peeled off from the left until the shape of `abbrevParts` is used up
    rcases abbrevParts_inv hl with ⟨a, b, t, hs, rfl⟩ | ⟨a, t, hs, rfl⟩
    · obtain ⟨-, ⟨⟨⟩, -⟩ | ⟨_, rfl, hs1⟩⟩ := splitOn_cons_inv ':' hs
      obtain ⟨ha, ⟨⟨⟩, -⟩ | ⟨_, rfl, hs2⟩⟩ := splitOn_cons_inv ':' hs1
      obtain ⟨hb, rest, hr, rfl⟩ := (splitOn_head_iff ':').mp ⟨t, hs2⟩
      simp only [List.mem_cons, List.not_mem_nil, or_false] at hk
      rcases hk with rfl | rfl
      · exact .capName p a b rest hp ha hb hr
      · exact .capNameVer p a b rest hp ha hb hr
    · obtain ⟨-, ⟨⟨⟩, -⟩ | ⟨_, rfl, hs1⟩⟩ := splitOn_cons_inv ':' hs
      obtain ⟨ha, rest, hr, rfl⟩ := (splitOn_head_iff ':').mp ⟨t, hs1⟩
      simp only [List.mem_cons, List.not_mem_nil, or_false] at hk
      rcases hk with rfl | rfl
      · exact .base p a rest hp ha hr
      · exact .baseVer p a rest hp ha hr
  · have hc : ':' ∉ sCapability ∧ ':' ∉ sBase ∧ sBase ≠ sCapability := by decide +kernel
    have cap : ∀ {name ver rest : Str}, ':' ∉ name → ':' ∉ ver → (rest = [] ∨ ∃ r, rest = ':' :: r) →
        abbrevParts (splitOn ':' (sCapability ++ ':' :: (name ++ ':' :: (ver ++ rest)))) =
          some [':' :: name, ':' :: name ++ ':' :: ver] := by
      intro name ver rest hn hv hr
      obtain ⟨t, ht⟩ := (splitOn_head_iff ':').mpr ⟨hv, rest, hr, rfl⟩
      rw [splitOn_append_sep _ _ hc.1, splitOn_append_sep _ _ hn, ht]
      simp [abbrevParts]
    have base : ∀ {ver rest : Str}, ':' ∉ ver → (rest = [] ∨ ∃ r, rest = ':' :: r) →
        abbrevParts (splitOn ':' (sBase ++ ':' :: (ver ++ rest))) =
          some [sColonBase, sColonBase ++ ':' :: ver] := by
      intro ver rest hv hr
      obtain ⟨t, ht⟩ := (splitOn_head_iff ':').mpr ⟨hv, rest, hr, rfl⟩
      rw [splitOn_append_sep _ _ hc.2.1, ht]
      simp [abbrevParts, hc.2.2]
    rintro (⟨p, name, ver, rest, hp, hn, hv, hr⟩ | ⟨p, name, ver, rest, hp, hn, hv, hr⟩ |
      ⟨p, ver, rest, hp, hv, hr⟩ | ⟨p, ver, rest, hp, hv, hr⟩)
    · exact ⟨p, hp, _, ⟨_, rfl, cap hn hv hr⟩, by simp⟩
    · exact ⟨p, hp, _, ⟨_, rfl, cap hn hv hr⟩, by simp⟩
    · exact ⟨p, hp, _, ⟨_, rfl, base hv hr⟩, by simp⟩
    · exact ⟨p, hp, _, ⟨_, rfl, base hv hr⟩, by simp⟩

/-- `from_uri` strips the parameters at the first `?`. -/
theorem fromUri_ns (uri : Str) : (fromUri uri).ns = nsPart uri :=
  fromUri_ns_takeWhile uri

/-- A full URI that was advertised is found, and the result is that URI's capability. -/
theorem full_uri (uris : List Str) (u : Str) (h : u ∈ uris) :
    getItem (mk uris) u = .ok (fromUri u) := by
  rw [getItem_canon (canon_mk uris), if_pos ((mem_keys_mk uris u).mpr h)]

/-- Shorthand membership: for a key that is not itself an advertised URI, lookup succeeds iff
    some advertised URI has it as one of its two grammar shorthands. -/
theorem shorthand_iff (uris : List Str) (key : Str) (h : key ∉ uris) :
    contains (mk uris) key = true ↔ ∃ u ∈ uris, Shorthand key (nsPart u) := by
  simp only [contains_canon (canon_mk uris), mem_keys_mk, h, false_or, abbreviate_spec, fromUri_ns]

/-- …and what a successful shorthand lookup returns is the capability of such a URI. -/
theorem shorthand_result (uris : List Str) (key : Str) (c : Cap) (h : key ∉ uris)
    (hc : getItem (mk uris) key = .ok c) : ∃ u ∈ uris, c = fromUri u ∧ Shorthand key (nsPart u) := by
  rw [getItem_canon (canon_mk uris), if_neg (mt (mem_keys_mk uris key).mp h)] at hc
  split at hc
  · rename_i u hf
    cases hc
    exact ⟨u, (mem_keys_mk uris u).mp (List.mem_of_find?_eq_some hf), rfl,
      by simpa [abbreviate_spec, fromUri_ns] using List.find?_some hf⟩
  · cases hc

/-- Totality: lookup is `ok` or the documented `KeyError`, for every URI list and key
    (the model has no other outcome because the code's indexing is guarded by length tests;
    that the code really has none is what the correspondence run checks). -/
theorem total (uris : List Str) (key : Str) :
    (∃ c, getItem (mk uris) key = .ok c) ∨ getItem (mk uris) key = .error .keyError := by
  cases h : getItem (mk uris) key with
  | ok c => exact Or.inl ⟨c, rfl⟩
  | error e => cases e; exact Or.inr rfl

/-- `in` agrees with lookup. -/
theorem contains_iff (uris : List Str) (key : Str) :
    contains (mk uris) key = true ↔ ∃ c, getItem (mk uris) key = .ok c := by
  unfold contains
  cases getItem (mk uris) key <;> simp

/-- The well-formed `k=v` pieces of a parameter string, in order. -/
def wellFormedPairs (s : Str) : List (Str × Str) :=
  (splitOn '&' s).filterMap fun piece =>
    match splitOn '=' piece with
    | [k, v] => some (k, v)
    | _ => none

/-- Parameters: exactly the well-formed pairs are exposed; a repeated key has its last value. -/
theorem params_spec (s : Str) (k : Str) :
    dictGet (parseParams s) k = ((wellFormedPairs s).reverse.find? (fun p => p.1 = k)).map Prod.snd := by
  have fold : parseParams s = (wellFormedPairs s).foldl (fun d p => dictSet d p.1 p.2) [] := by
    rw [parseParams, wellFormedPairs, List.foldl_filterMap]
    congr 1
    funext d piece
    split <;> simp_all
  rw [← dictGet_eq_find?, fold, dictGet_foldl_dictSet]
  exact Option.or_none

/-- Iteration yields exactly the advertised URIs. -/
theorem keys_spec (uris : List Str) (u : Str) : u ∈ keys (mk uris) ↔ u ∈ uris :=
  mem_keys_mk uris u

/-! ## Histories: a capability object that is added to and removed from behaves like the ordered SET of URIs the
documentation describes — whatever was looked up, added or removed before (no memory of past contents). -/

/-- After ANY sequence of `add` / `remove`, the object is the one holding exactly the URIs of the abstract ordered set —
    so every lookup (full URI, shorthand, parameters, `in`, iteration, length) answers as a freshly built object would. -/
theorem history_is_fresh_object (uris : List Str) (ops : List Op) :
    run (mk uris) ops = ofKeys (ops.foldl absStep (keys (mk uris))) :=
  run_eq_ofKeys _ ops (canon_mk uris)

/-- Iteration and length after any history: the URIs added and not removed, each once, in the order in which they (last) entered. -/
theorem iteration_after_history (uris : List Str) (ops : List Op) :
    keys (run (mk uris) ops) = ops.foldl absStep (keys (mk uris)) :=
  keys_run (mk uris) ops

/-- Corollary for lookups. -/
theorem lookup_after_history (uris : List Str) (ops : List Op) (key : Str) :
    getItem (run (mk uris) ops) key = getItem (ofKeys (ops.foldl absStep (keys (mk uris)))) key := by
  rw [history_is_fresh_object]

/-- The abstract set: `add` makes a URI present (at the end if new), `remove` makes it absent, neither touches the others. -/
theorem abs_add_mem (l : List Str) (u : Str) : u ∈ absStep l (.add u) :=
  (mem_absStep l _ u).mpr (.inr rfl)
theorem abs_remove_not_mem (l : List Str) (u : Str) : u ∉ absStep l (.remove u) := by
  simp [mem_absStep]
theorem abs_other_unchanged (l : List Str) (op : Op) (v : Str) (h : op ≠ .add v ∧ op ≠ .remove v) : v ∈ absStep l op ↔ v ∈ l := by
  simp [mem_absStep, h.1, h.2]

/-- A removed capability is gone for the shorthand forms too (unless another advertised URI still has that shorthand). -/
theorem removed_is_gone (uris : List Str) (ops : List Op) (u : Str) :
    dictGet (run (mk uris) (ops ++ [.remove u])) u = none := by
  rw [history_is_fresh_object, dictGet_canon (canon_ofKeys _), keys_ofKeys, List.foldl_append]
  exact if_neg (abs_remove_not_mem _ u)

example : contains (run (mk ["urn:ietf:params:netconf:capability:url:1.0?scheme=ftp".toList]) [.remove "urn:ietf:params:netconf:capability:url:1.0?scheme=ftp".toList]) ":url".toList = false := by
  decide_chars
example : keys (run (mk ["a".toList, "b".toList]) [.add "c".toList, .remove "a".toList, .add "b".toList, .add "a".toList]) = ["b".toList, "c".toList, "a".toList] := by
  decide +kernel

/-! Non-vacuity: concrete instances of the hypotheses / both directions. -/

example : Shorthand ":candidate".toList "urn:ietf:params:netconf:capability:candidate:1.0".toList :=
  (abbreviate_spec _ _).mp (by decide_chars)

example : contains (mk ["urn:ietf:params:xml:ns:netconf:base:1.0".toList]) ":base:1.0".toList = true := by
  decide_chars
example : contains (mk ["urn:ietf:params:netconf:capability:candidate".toList]) ":candidate".toList = false := by
  decide_chars
example : contains (mk ["urn:ietf:params:foo:netconf:capability:a:b".toList]) ":capability".toList = false := by
  decide_chars
example : (fromUri "urn:x?a=1&b&a=2".toList).params = [("a".toList, "2".toList)] := by decide +kernel

end NcVerif.C08
