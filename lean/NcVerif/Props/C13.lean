/-
  C13 — the lock context manager pairs lock and unlock.
  For ALL bodies (`Prog`: requests, raise, sequencing, nested lock contexts
  to any depth), all datastore names and ALL servers (`Server`: any history-dependent answers).
-/
import NcVerif.Proofs.Lock
namespace NcVerif.C13
open NcVerif NcVerif.Lock

/-- Lock granted: the server sees `lock t`, then exactly the body's own requests, then `unlock t`,
    once — whether the body returns or raises. -/
theorem bracket (srv : Server) (m : Mode) (t : Nat) (body : Prog) (tr : List Ev)
    (h : refused (srv (tr ++ [.lock t])) = false) :
    (run srv m (.locked t body) tr).1 = (run srv m body (tr ++ [.lock t])).1 ++ [.unlock t] := by
  simp only [LockP.run_locked, h, Bool.false_eq_true, if_false]
  split <;> rfl

/-- …and the body's exception (or normal return) propagates, unless the unlock itself is refused. -/
theorem body_exception_propagates (srv : Server) (m : Mode) (t : Nat) (body : Prog) (tr : List Ev)
    (h : refused (srv (tr ++ [.lock t])) = false)
    (hu : refused (srv ((run srv m body (tr ++ [.lock t])).1 ++ [.unlock t])) = false) :
    (run srv m (.locked t body) tr).2 = (run srv m body (tr ++ [.lock t])).2 := by
  simp only [LockP.run_locked, h, hu, Bool.false_eq_true, if_false]

/-- Lock refused: the body does not run and no unlock is sent; the caller sees the lock's error. -/
theorem lock_refused (srv : Server) (m : Mode) (t : Nat) (body : Prog) (tr : List Ev)
    (h : refused (srv (tr ++ [.lock t])) = true) :
    run srv m (.locked t body) tr = (tr ++ [.lock t], some (.rpc (.lock t))) := by
  simp only [LockP.run_locked, h, if_true]

/-- A warning-only answer to `lock` is not a refusal: the body runs under the lock. -/
theorem warning_is_not_refusal : refused .warning = false ∧ refused .ok = false ∧ refused .error = true := by
  decide

/-- The manager's own raise mode does not reach `<lock>`/`<unlock>`: under `RaiseMode.ALL` a
    warning-only answer to `<lock>` still runs the body under the lock and releases it, and under
    `RaiseMode.NONE` a refused `<lock>` still raises with the body not run. -/
theorem manager_mode_does_not_reach_lock (srv : Server) (t : Nat) (body : Prog) (tr : List Ev) :
    (srv (tr ++ [.lock t]) = .warning →
      (run srv .all (.locked t body) tr).1 = (run srv .all body (tr ++ [.lock t])).1 ++ [.unlock t]) ∧
    (srv (tr ++ [.lock t]) = .error →
      run srv .none (.locked t body) tr = (tr ++ [.lock t], some (.rpc (.lock t)))) :=
  ⟨fun h => bracket srv .all t body tr (by rw [h]; rfl),
   fun h => lock_refused srv .none t body tr (by rw [h]; rfl)⟩

/-- Well-bracketedness of what the server sees: `Balanced srv tr d` — `d` is appended to `tr` and its
    granted locks and unlocks nest properly, each unlock naming the datastore of the matching lock;
    a refused lock stands alone. -/
inductive Balanced (srv : Server) : List Ev → List Ev → Prop
  | nil (tr) : Balanced srv tr []
  | req (tr n d) : Balanced srv (tr ++ [.req n]) d → Balanced srv tr (.req n :: d)
  | refusedLock (tr t d) : refused (srv (tr ++ [.lock t])) = true →
      Balanced srv (tr ++ [.lock t]) d → Balanced srv tr (.lock t :: d)
  | granted (tr t inner d) : refused (srv (tr ++ [.lock t])) = false →
      Balanced srv (tr ++ [.lock t]) inner →
      Balanced srv (tr ++ [.lock t] ++ inner ++ [.unlock t]) d →
      Balanced srv tr (.lock t :: inner ++ .unlock t :: d)

private theorem Balanced.append {srv : Server} {tr d₁ d₂ : List Ev} (h₁ : Balanced srv tr d₁)
    (h₂ : Balanced srv (tr ++ d₁) d₂) : Balanced srv tr (d₁ ++ d₂) := by
  induction h₁ with
  | nil tr => rwa [List.append_nil] at h₂
  | req tr n d _ ih => exact .req tr n _ (ih (List.append_cons .. ▸ h₂))
  | refusedLock tr t d hr _ ih => exact .refusedLock tr t _ hr (ih (List.append_cons .. ▸ h₂))
  | granted tr t inner d hg hin _ _ ihd =>
    rw [List.append_assoc, List.cons_append]
    refine .granted tr t inner _ hg hin (ihd ?_)
    simpa only [List.append_assoc, List.cons_append, List.nil_append] using h₂

/-- Every program, against every server: the lock/unlock events it produces are well-bracketed. -/
theorem well_bracketed (srv : Server) (m : Mode) (p : Prog) (tr : List Ev) :
    ∃ d, (run srv m p tr).1 = tr ++ d ∧ Balanced srv tr d := by
  induction p generalizing tr with
  | skip | raise _ => exact ⟨[], (List.append_nil tr).symm, .nil tr⟩
  | req n => exact ⟨[.req n], rfl, .req tr n [] (.nil _)⟩
  | seq a b iha ihb =>
    obtain ⟨d₁, h₁, b₁⟩ := iha tr
    rcases hr : run srv m a tr with ⟨tr', _ | x⟩ <;> rw [hr] at h₁ <;> subst h₁
    · obtain ⟨d₂, h₂, b₂⟩ := ihb (tr ++ d₁)
      exact ⟨d₁ ++ d₂, by rw [LockP.run_seq_none b hr, h₂, List.append_assoc], b₁.append b₂⟩
    · exact ⟨d₁, by rw [LockP.run_seq_some b hr], b₁⟩
  | locked t body ih =>
    cases h : refused (srv (tr ++ [.lock t])) with
    | true => exact ⟨[.lock t], by rw [lock_refused srv m t body tr h], .refusedLock tr t [] h (.nil _)⟩
    | false =>
      obtain ⟨d, hd, bd⟩ := ih (tr ++ [.lock t])
      refine ⟨.lock t :: d ++ .unlock t :: [], ?_, .granted tr t d [] h bd (.nil _)⟩
      rw [bracket srv m t body tr h, hd]
      simp only [List.append_assoc, List.cons_append, List.nil_append]

/-- A run only ever appends to what the server has seen. -/
theorem trace_extends (srv : Server) (m : Mode) (p : Prog) (tr : List Ev) : ∃ d, (run srv m p tr).1 = tr ++ d :=
  (well_bracketed srv m p tr).imp fun _ h => h.1

/-- Exactly one unlock per granted lock, none for a refused one (counting form, any datastore). -/
theorem unlock_count (srv : Server) (m : Mode) (t : Nat) (body : Prog) (tr : List Ev) :
    let r := run srv m (.locked t body) tr
    let bodyUnlocks := ((run srv m body (tr ++ [.lock t])).1.drop (tr.length + 1)).count (.unlock t)
    (r.1.drop tr.length).count (.unlock t) =
      if refused (srv (tr ++ [.lock t])) then 0 else bodyUnlocks + 1 := by
  intro r bodyUnlocks
  cases h : refused (srv (tr ++ [.lock t])) with
  | true => simp [r, lock_refused srv m t body tr h]
  | false =>
    obtain ⟨d, hd⟩ := trace_extends srv m body (tr ++ [.lock t])
    simp [r, bodyUnlocks, bracket srv m t body tr h, hd]

/-! Non-vacuity: body raises inside a nested lock on another datastore; server answers everything ok. -/
def okSrv : Server := fun _ => .ok
example : run okSrv .errors (.locked 1 (.seq (.req 7) (.locked 2 (.seq (.req 8) (.raise 5))))) [] =
    ([.lock 1, .req 7, .lock 2, .req 8, .unlock 2, .unlock 1], some (.body 5)) := by decide
-- a server that refuses the second lock: no unlock for it, outer lock still released
def refuse2 : Server := fun tr => if tr.getLast? = some (.lock 2) then .error else .ok
example : run refuse2 .all (.locked 1 (.seq (.locked 2 (.req 8)) (.req 9))) [] =
    ([.lock 1, .lock 2, .unlock 1], some (.rpc (.lock 2))) := by decide

-- manager mode ALL: a warning answer to a body request raises there, the unlock still goes out; a warning answer to the lock does not
def warnAll : Server := fun _ => .warning
example : run warnAll .all (.locked 1 (.seq (.req 7) (.req 8))) [] =
    ([.lock 1, .req 7, .unlock 1], some (.rpc (.req 7))) := by decide

end NcVerif.C13
