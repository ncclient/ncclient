/-
  C18 — Junos streaming-filter mode is transparent and segmentation-independent.
  PARTIAL. Proved here, over the model of the SAX handler (Model/JunosSax.lean), for ALL filters and
  reply trees: the handler's output does not depend on how expat cuts character data; without a
  filter it writes nothing and hands over; for replies whose tag names do not repeat along a path
  (`Good`, the premise the handler's name-based bookkeeping needs) its output is exactly the
  projection of the reply onto the filter's paths.  Not modelled at all: expat's tokenising,
  `_delimiter_check` (difflib heuristics) and the SAX→DOM hand-over; independence of the READ
  segmentation is therefore explored by the correspondence run only (every cut position of scripted
  streams), which is where the known findings of this property are.
-/
import NcVerif.Proofs.Chars
import NcVerif.Proofs.JunosSax
namespace NcVerif.C18
open NcVerif NcVerif.JunosSax

mutual
  /-- No element has a proper descendant with the same tag, and no element is called rpc-reply. -/
  def goodRT (above : List Str) : RT → Bool
    | .leaf t _ _ => !(t ∈ above) && !(t ∈ rpcReplyTags)
    | .node t _ ch => !(t ∈ above) && !(t ∈ rpcReplyTags) && goodRTList (t :: above) ch
  def goodRTList (above : List Str) : List RT → Bool
    | [] => true
    | x :: xs => goodRT above x && goodRTList above xs
end

/-- The premise: the reply's top element is the filter's root element, tag names do not repeat
    along any path of the reply, and the filter root has no child called rpc-reply (otherwise the
    handler takes the `<rpc-reply>` start tag itself for an element on a filter path: see the example
    at the end of this file). -/
def Good (f : FT) (top : RT) : Prop :=
  top.tag = f.tag ∧ goodRT [] top = true ∧ f.find "rpc-reply".toList = none

open NcVerif.JunosSaxP

private theorem goodRT_leaf {above : List Str} {t : Str} {a : List (Str × Str)} {p : List Str}
    (h : goodRT above (.leaf t a p) = true) : t ∉ above ∧ t ∉ rpcReplyTags := by
  simpa [goodRT] using h

private theorem goodRT_node {above : List Str} {t : Str} {a : List (Str × Str)} {ch : List RT}
    (h : goodRT above (.node t a ch) = true) :
    (t ∉ above ∧ t ∉ rpcReplyTags) ∧ goodRTList (t :: above) ch = true := by
  simpa [goodRT] using h

private theorem goodRTList_cons {above : List Str} {x : RT} {xs : List RT}
    (h : goodRTList above (x :: xs) = true) : goodRT above x = true ∧ goodRTList above xs = true := by
  simpa [goodRTList] using h

mutual
  private theorem fresh_events {above : List Str} : ∀ (y : RT), goodRT above y = true →
      ∀ e ∈ events y, Fresh above e
    | .leaf _ _ p, hg => fresh_elem (goodRT_leaf hg) (fresh_chars p)
    | .node _ _ ch, hg =>
      have ⟨ht, hch⟩ := goodRT_node hg
      fresh_elem ht fun e he => fresh_tail (fresh_eventsList ch hch e he)
  private theorem fresh_eventsList {above : List Str} : ∀ (ys : List RT), goodRTList above ys = true →
      ∀ e ∈ eventsList ys, Fresh above e
    | [], _ => nofun
    | y :: ys, hg => fun e he =>
      have ⟨hy, hys⟩ := goodRTList_cons hg
      (List.mem_append.1 he).elim (fresh_events y hy e) (fresh_eventsList ys hys e)
end

/-- While ignoring (inside a dropped element `ig`), a whole subtree goes by without any effect:
    its tags differ from `ig`, from the default tags and from the open filter nodes' tags, because
    all of those are ancestors' tags. -/
private theorem ignore_events (lk : Lookup) (r : Option FT) (w v fl : Bool) (ig : Str) :
      ∀ (y : RT) (above : List Str) (g : FT) (rest : List FT) (dts : List Str) (out : Str),
        goodRT above y = true → ig ∈ above → (∀ s ∈ g :: rest, s.tag ∈ above) →
        (∀ d ∈ dts, d ∈ above ∨ d ∈ rpcReplyTags) →
        feed lk ⟨r, g :: rest, w, some ig, dts, none, v, out, fl⟩ (events y) =
          .ok ⟨r, g :: rest, w, some ig, dts, none, v, out, fl⟩ :=
  fun y _ g _ _ _ hg hi hs hd =>
    feed_ignoring (fresh_events y hg) hi ⟨hs g (List.mem_cons_self ..), hd⟩

/- The core invariant: a child `x` of a kept element whose filter node is `g`. If `g` has a child
   for `x.tag` the element is copied (recursively projected), the filter node being pushed at its
   start tag and popped at its end tag; otherwise it is dropped without a trace. -/
mutual
  private theorem feed_child {lk : Lookup} {r : FT} {w fl : Bool} {above : List Str} {g : FT}
      {rest : List FT} {dts : List Str} {ct : Option Str} {out : Str} :
      ∀ (x : RT), goodRT above x = true → Watched above g dts →
        feed lk ⟨some r, g :: rest, w, none, dts, ct, false, out, fl⟩ (events x) =
          .ok ⟨some r, g :: rest, w, none, dts, none, false,
               out ++ (match g.find x.tag with | some n => render n x | none => []), fl⟩
    | .leaf t a p, hg, hw => by
      rw [RT.tag]
      cases hf : g.find t with
      | none => rw [List.append_nil]; exact elem_dropped (goodRT_leaf hg) hw hf (fresh_chars p)
      | some n => exact elem_kept (goodRT_leaf hg) hw hf ⟨_, feed_chars_some p⟩
    | .node t a ch, hg, hw => by
      obtain ⟨ht, hch⟩ := goodRT_node hg
      rw [RT.tag]
      cases hf : g.find t with
      | none => rw [List.append_nil]; exact elem_dropped ht hw hf (fresh_eventsList ch hch)
      | some n => exact elem_kept ht hw hf (feed_children ch hch (hw.push hf))
  private theorem feed_children {lk : Lookup} {r : FT} {w fl : Bool} {above : List Str} {g : FT}
      {rest : List FT} {dts : List Str} {ct : Option Str} {out : Str} :
      ∀ (xs : List RT), goodRTList above xs = true → Watched above g dts →
        ∃ ct', feed lk ⟨some r, g :: rest, w, none, dts, ct, false, out, fl⟩ (eventsList xs) =
          .ok ⟨some r, g :: rest, w, none, dts, ct', false, out ++ renderList g xs, fl⟩
    | [], _, _ => ⟨ct, by rw [eventsList, renderList, List.append_nil, feed]⟩
    | x :: xs, hg, hw => by
      obtain ⟨hx, hxs⟩ := goodRTList_cons hg
      rw [eventsList, feed_append_ok (feed_child x hx hw), renderList, ← List.append_assoc]
      exact feed_children xs hxs hw
end

/-- `feed_child` with a premise about the whole stack, of which only the head is needed. -/
private theorem child_events (lk : Lookup) (r : FT) (w fl : Bool) :
      ∀ (x : RT) (above : List Str) (g : FT) (rest : List FT) (dts : List Str) (ct : Option Str)
        (out : Str),
        goodRT above x = true → (∀ s ∈ g :: rest, s.tag ∈ above) →
        (∀ d ∈ dts, d ∈ above ∨ d ∈ rpcReplyTags) →
        feed lk ⟨some r, g :: rest, w, none, dts, ct, false, out, fl⟩ (events x) =
          .ok ⟨some r, g :: rest, w, none, dts, none, false,
               out ++ (match g.find x.tag with | some n => render n x | none => []), fl⟩ :=
  fun x _ g _ _ _ _ hg hs hd => feed_child x hg ⟨hs g (List.mem_cons_self ..), hd⟩

private theorem rr_mem : "rpc-reply".toList ∈ rpcReplyTags := List.mem_cons_self ..

/-- How expat happens to cut character data into `characters` events does not matter. -/
theorem chars_split (h : H) (a b : Str) :
    characters (characters h a) b = characters h (a ++ b) :=
  characters_append h a b

theorem chars_pieces (h : H) (pieces : List Str) :
    (pieces.foldl characters h) = characters h pieces.flatten := by
  induction pieces generalizing h with
  | nil => exact (characters_nil h).symm
  | cons p ps ih => rw [List.foldl_cons, ih, characters_append, List.flatten_cons]

/-- Without a filter the handler writes nothing for this reply and asks for the hand-over to the DOM
    parser at the `<rpc-reply>` start tag, whatever follows. -/
theorem nofilter_fallback (h : H) (attrs : List (Str × Str)) (rest : List Ev) :
    feed .noFilter h (.start "rpc-reply".toList attrs :: rest) = .noFilter :=
  (feed_reply_unfiltered rr_mem h attrs rest).1

theorem unknown_id_rejected (h : H) (attrs : List (Str × Str)) (rest : List Ev) :
    feed .unknown h (.start "rpc-reply".toList attrs :: rest) = .unknownId :=
  (feed_reply_unfiltered rr_mem h attrs rest).2

/-- The projection theorem with the envelope spelt either way (`rpc-reply`, `nc:rpc-reply`) and the
    state the handler ends in. -/
private theorem reply_projected {f : FT} {e : Str} (he : e ∈ rpcReplyTags) (hrr : f.find e = none)
    (attrs : List (Str × Str)) {top : RT} (htag : top.tag = f.tag) (hgood : goodRT [] top = true) :
    feed (.filter f) {} (.start e attrs :: events top ++ [.stop e]) =
      .ok ⟨some f, [f], false, none, [e, f.tag], none, false,
        openTag e attrs ++ render f top ++ closeTag e, false⟩ := by
  cases top with
  | leaf t a p =>
    obtain rfl : t = f.tag := htag
    exact reply_top he hrr (goodRT_leaf hgood).2 ⟨_, feed_chars_some p⟩
  | node t a ch =>
    obtain rfl : t = f.tag := htag
    obtain ⟨ht, hch⟩ := goodRT_node hgood
    exact reply_top he hrr ht.2 (feed_children ch hch
      ⟨List.mem_cons_self .., List.forall_mem_cons.2 ⟨.inr he, by simp⟩⟩)

/-- With a filter, for every Good reply: what the handler writes is a well-nested document containing
    exactly the elements of the reply that lie on the filter's paths (with their attributes and leaf
    text, escaped), in document order. -/
theorem sax_project (f : FT) (attrs : List (Str × Str)) (top : RT) (hg : Good f top) :
    ∃ h', feed (.filter f) {} (replyEvents attrs top) = .ok h' ∧ h'.out = expectedOut f attrs top ∧
      h'.failed = false ∧ h'.ignoretag = none :=
  ⟨_, reply_projected rr_mem hg.2.2 attrs hg.1 hg.2.1, rfl, rfl, rfl⟩

/-- The output is independent of how leaf text was delivered (corollary, at the level of whole replies). -/
theorem sax_project_text_pieces (f : FT) (attrs a : List (Str × Str)) (t : Str) (p q : List Str)
    (hp : p.flatten = q.flatten) (hg : Good f (.leaf t a p)) :
    ∃ h1 h2, feed (.filter f) {} (replyEvents attrs (.leaf t a p)) = .ok h1 ∧
             feed (.filter f) {} (replyEvents attrs (.leaf t a q)) = .ok h2 ∧ h1.out = h2.out := by
  -- the two event streams drive the handler into the very same state (the premise is not needed)
  have _ := hg
  obtain ⟨h1, e1⟩ := feed_filter_ok f (replyEvents attrs (.leaf t a p)) {}
  refine ⟨h1, h1, e1, ?_, rfl⟩
  rw [← e1]
  simpa [replyEvents, events] using (feed_pieces_irrel (.filter f) {}
    [.start "rpc-reply".toList attrs, .start t a] [.stop t, .stop "rpc-reply".toList] p q hp).symm

/-! Non-vacuity -/
def s (x : String) : Str := x.toList
def flt : FT := .node (s "a") [.node (s "b") [.node (s "c") []]]
def rep : RT := .node (s "a") [] [.node (s "b") [] [.leaf (s "c") [] [s "1"], .leaf (s "d") [] [s "2"]], .leaf (s "e") [] [s "x & y"]]
example : Good flt rep := by unfold Good; decide +kernel
example : (match feed (.filter flt) {} (replyEvents [(s "message-id", s "m1")] rep) with | .ok h => h.out | _ => []) =
    s "<rpc-reply message-id=\"m1\"><a><b><c>1</c>\n</b>\n</a>\n</rpc-reply>\n" := by
  unfold s; decide_chars
-- the premise matters: an ignored element containing an element named like its parent corrupts the output
def bad : RT := .node (s "a") [] [.node (s "x") [] [.leaf (s "a") [] [s "1"]], .leaf (s "b") [] [s "2"]]
example : (match feed (.filter (.node (s "a") [.node (s "b") []])) {} (replyEvents [] bad) with | .ok h => h.out | _ => []) ≠
    expectedOut (.node (s "a") [.node (s "b") []]) [] bad := by decide +kernel

-- the third conjunct of `Good` matters: if the filter root has a child called rpc-reply, the handler
-- takes the `<rpc-reply>` start tag for that child (`validate` is never set) and drops the top element
def rrFlt : FT := .node (s "a") [.node (s "rpc-reply") []]
def rrTop : RT := .leaf (s "a") [] []
example : rrTop.tag = rrFlt.tag ∧ goodRT [] rrTop = true := by decide +kernel
example : (match feed (.filter rrFlt) {} (replyEvents [] rrTop) with | .ok h => h.out | _ => []) =
    s "<rpc-reply></rpc-reply>\n" := by decide +kernel
example : (match feed (.filter rrFlt) {} (replyEvents [] rrTop) with | .ok h => h.out | _ => []) ≠
    expectedOut rrFlt [] rrTop := by decide +kernel

end NcVerif.C18
