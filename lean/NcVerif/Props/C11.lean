/-
  C11 — notifications are queued exactly once, in order, without disturbing RPCs.
  Over all histories and environments of Model/Session.
-/
import NcVerif.Proofs.SessionA
import NcVerif.Props.C03
namespace NcVerif.C11
open NcVerif NcVerif.Session NcVerif.SessionSpec NcVerif.Framing

/-- Exactly once, in arrival order, text intact: what has been taken plus what is still queued is
    the sub-sequence of well-formed notifications among the messages received, in order. -/
theorem notifQ_spec (env : Env) (ops : List Op) :
    (run env init ops).taken ++ (run env init ops).notifQ =
      (run env init ops).received.filter (goodNotif env) :=
  SessionA.notifQ_spec env ops

/-- A notification is never taken for a reply, never fails a pending request and never terminates
    the session — for every device profile (`env.qualify` either way). -/
theorem notif_inert (env : Env) (w : World) (raw : Str) (rest : List Out) (m : Option Nat)
    (hpc : w.pc = .dispatching (.deliver raw :: rest))
    (hc : env.classify raw = .root ⟨.notification, m⟩) (hn : env.notifOk raw = true) :
    let w' := step env w .wDispatch
    w'.rpcs = w.rpcs ∧ w'.id2rpc = w.id2rpc ∧ w'.connected = w.connected ∧ w'.closing = w.closing ∧
    (∀ e, w'.pc ≠ .failing e) ∧ (w.hasNotif = true → w'.notifQ = w.notifQ ++ [raw]) :=
  SessionA.notif_inert env w raw rest m hpc hc hn

/-- Replies and other messages never enter the notification queue. -/
theorem only_notifications_queued (env : Env) (ops : List Op) :
    ∀ n ∈ (run env init ops).notifQ ++ (run env init ops).taken, goodNotif env n = true :=
  SessionA.only_notifications_queued env ops

/-- With nothing queued a non-blocking take returns nothing and changes nothing. -/
theorem take_empty (env : Env) (w : World) (h : w.notifQ = []) : step env w .cTake = w :=
  SessionA.take_empty env w h

/-- A take returns the oldest queued notification. -/
theorem take_oldest (env : Env) (w : World) (n : Str) (rest : List Str) (h : w.notifQ = n :: rest) :
    (step env w .cTake).notifQ = rest ∧ (step env w .cTake).taken = w.taken ++ [n] := by
  simp [step, h]

/-- The NotificationHandler is registered before the worker can dispatch anything. -/
theorem handler_before_worker (env : Env) (ops : List Op) :
    (run env init ops).pc ≠ .notStarted → (run env init ops).hasNotif = true :=
  SessionA.handler_before_worker env ops

example : (run C03.demoEnv init C03.demoOps).notifQ = ["n".toList] := by decide +kernel

end NcVerif.C11
