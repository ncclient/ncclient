/-
  C09 — capability-gated operations are refused locally when the capability is absent.
  (i) finite part, re-checked against the regenerated table Gen/OpTable.lean (every gated operation x
  argument shape x profile override, probed with everything advertised and with each required
  capability removed); (ii) unbounded part: the gate itself, for every server capability list; the request
  builders of Model/Builders and Model/Retrieve, for all argument values and capability lists.
-/
import NcVerif.Proofs.Chars
import NcVerif.Proofs.OpGating
import NcVerif.Proofs.Caps
import NcVerif.Proofs.Builders
import NcVerif.Proofs.Retrieve
namespace NcVerif.C09
open NcVerif NcVerif.Gen NcVerif.OpsSpec NcVerif.Caps NcVerif.Ops

/-- With everything advertised, what each call asserts is exactly what the documentation says it
    depends on (candidate, confirmed-commit, validate, validate:1.1 for test-only, rollback-on-error,
    url, notification, with-defaults; junos / sros commit overrides included). -/
theorem asserted_is_documented : ∀ r ∈ opRows, gatingOk r = true := fun r h => (OpGating.rows_ok r h).gating

/-- A capability-dependent parameter element (`confirmed`, `confirm-timeout`, `persist`, `test-option`,
    `with-defaults`) is never on the wire without its capability having been asserted — also for argument
    combinations the documentation does not foresee (e.g. `persist` without `confirmed`). -/
theorem gated_elements_asserted : ∀ r ∈ opRows, gatedParamsOk r = true := fun r h => (OpGating.rows_ok r h).gatedParams

/-- The same for capability-dependent VALUES: `<test-option>test-only` and `<error-option>rollback-on-error`
    are on the wire only if `:validate:1.1` / `:rollback-on-error` was asserted — whatever spelling of the
    argument produced them. -/
theorem gated_values_asserted : ∀ r ∈ opRows, gatedValuesOk r = true := fun r h => (OpGating.rows_ok r h).gatedValues

/-- With a required capability missing the call is refused (MissingCapabilityError / WithDefaultsError)
    and nothing is put on the wire. -/
theorem refused_silently : ∀ r ∈ opRows, refusalOk r = true := fun r h => (OpGating.rows_ok r h).refusal

/-- The probing covered every documented requirement of every sent call. -/
theorem every_requirement_probed : probedAll opRows = true :=
  List.all_eq_true.2 fun r h => (OpGating.rows_ok r h).probed

/-- The gate, for EVERY capability list: refused iff some required capability is not contained. -/
theorem gate_iff (caps : Caps) (req : List Str) :
    gate caps req = none ↔ ∀ c ∈ req, contains caps c = true := by
  simp [gate_eq_find?]

/-- …and the refusal names the first missing capability. -/
theorem gate_names_missing (caps : Caps) (req : List Str) (c : Str)
    (h : gate caps req = some (.missingCapability c)) : c ∈ req ∧ contains caps c = false := by
  rw [gate_eq_find?, Option.map_eq_some_iff] at h
  obtain ⟨_, hf, ⟨⟩⟩ := h
  exact ⟨List.mem_of_find?_eq_some hf, by simpa using List.find?_some hf⟩

/-- with-defaults: accepted iff the capability is there, carries a basic-mode, and the (stripped,
    lower-cased) mode is the basic mode or one of the comma-separated also-supported modes. -/
theorem with_defaults_iff (caps : Caps) (mode : Str) :
    withDefaultsGate caps mode = none ↔
      contains caps kWithDefaults = true ∧ ∃ cap b, getItem caps kWithDefaults = .ok cap ∧
        dictGet cap.params kBasicMode = some b ∧
        lowerAscii (pyStrip mode) ∈ b :: (match dictGet cap.params kAlsoSupported with | some a => splitOn ',' a | none => []) := by
  unfold withDefaultsGate validModes
  cases hc : contains caps kWithDefaults
  · simp
  · simp only [Bool.not_true, Bool.false_eq_true, if_false, true_and]
    cases hg : getItem caps kWithDefaults with
    | error e => simp
    | ok cap =>
      cases hb : dictGet cap.params kBasicMode with
      | none => simp [hb]
      | some b =>
        cases ha : dictGet cap.params kAlsoSupported with
        | none => simp [hb, ha]
        | some a =>
          by_cases h : lowerAscii (pyStrip mode) = b <;> simp [hb, ha, h]

/-! Non-vacuity -/
example : ∃ r ∈ opRows, isSent r = true ∧ r.op = s "commit" ∧ argIs r "confirmed" "False" = true ∧ argIs r "persist" "True" = true := by
  unfold s; decide_chars
example : ∃ r ∈ opRows, isSent r = true ∧ required r = [s ":url", s ":validate", s ":validate:1.1", s ":rollback-on-error"] := by
  unfold s; decide_chars
example : gate (mk ["urn:ietf:params:xml:ns:netconf:capability:candidate:1.0".toList]) [":candidate".toList] = none := by decide_chars
example : gate (mk ["urn:ietf:params:netconf:base:1.0".toList]) [":candidate".toList, ":url".toList] = some (.missingCapability ":candidate".toList) := by decide_chars
example : withDefaultsGate (mk ["urn:ietf:params:netconf:capability:with-defaults:1.0?basic-mode=explicit&also-supported=report-all,trim".toList]) " Trim ".toList = none := by decide_chars
example : withDefaultsGate (mk ["urn:ietf:params:netconf:capability:with-defaults:1.0?basic-mode=explicit".toList]) "trim".toList = some .withDefaults := by decide_chars

/-! ## The request builders for ALL argument values (Model/Builders, compared with the real Manager on random arguments) -/

section Builders
open NcVerif.XmlDoc NcVerif.Builders NcVerif.BuildersP

/-- A request is built only if every capability its ARGUMENTS depend on (RFC 6241 §8: `:url` for a URL
    source / target / configuration, `:validate` for any test-option and `:validate:1.1` for `test-only`,
    `:rollback-on-error`, `:candidate`, `:confirmed-commit`) is one the server has — for every datastore
    name, URL, option value and text the caller may pass, and every server capability set `has`. -/
theorem built_only_with_capabilities (has : Str → Bool) (call : Call) (t : XNode)
    (hcfg : ∀ c tg d to e, call = .edit (.xml c) tg d to e → Good c) (h : build has call = .ok t) :
    ∀ cap ∈ Builders.required call, has (Builders.s cap) = true :=
  (build_ok has call t hcfg h).2

/-- Contrapositive, as the property words it: if the server lacks a capability the call depends on, nothing
    is built (so nothing can be put on the wire) — the outcome is a local refusal. -/
theorem missing_capability_builds_nothing (has : Str → Bool) (call : Call) (cap : String)
    (hcfg : ∀ c tg d to e, call = .edit (.xml c) tg d to e → Good c)
    (hreq : cap ∈ Builders.required call) (hmiss : has (Builders.s cap) = false) : ∃ r, build has call = .error r :=
  Ok.refused (fun t hb => built_only_with_capabilities has call t hcfg hb cap hreq) fun _ h => by rw [hmiss] at h; cases h

example : refusal (build (fun c => c != ":url".toList) (.getConfig "ftp://h/f".toList)) = some (.missingCapability ":url".toList) := by decide_chars
example : refusal (build (fun c => c != ":validate:1.1".toList) (.edit (.text "x".toList) "running".toList none (some "test-only".toList) none))
    = some (.missingCapability ":validate:1.1".toList) := by decide_chars
example : (builtText (build (fun c => c != ":validate:1.1".toList) (.edit (.text "x".toList) "running".toList none (some "set".toList) none))).isSome = true := by
  decide_chars
end Builders

/-! ## The retrieval builders (Model/Retrieve): with-defaults against the server's OWN mode list, `:url` sources, `:notification` -/

section Retrieve
open NcVerif.XmlDoc NcVerif.Builders NcVerif.BuildersP NcVerif.Retrieve NcVerif.RetrieveP

/-- get / get-config / dispatch / create-subscription / get-schema / rpc / the flowmon power operations / validate and
    copy-config with element arguments — with Model/Builders that is EVERY entry of `manager.OPERATIONS` — are built only if the
    server has every capability their arguments depend on: `:with-defaults` for any with-defaults mode, `:url` for a URL source or
    target, `:notification` for a subscription, `:validate`, the power-control URIs. -/
theorem retrieval_built_only_with_capabilities (caps : Caps) (call : Retrieve.Call) (t : XNode)
    (hf : FilterGood (filterOf call)) (he : ∀ e ∈ elemArgs call, Good e) (h : Retrieve.build caps call = .ok t) :
    ∀ cap ∈ Retrieve.required call, contains caps (Builders.s cap) = true :=
  (RetrieveP.build_ok caps call t hf he h).2.1

/-- …and a with-defaults mode is on the wire only if the server's with-defaults capability URI lists it: it carries a
    `basic-mode`, and the stripped, lower-cased mode is that basic mode or one of the comma-separated `also-supported` ones. -/
theorem with_defaults_mode_is_advertised (caps : Caps) (call : Retrieve.Call) (t : XNode) (mode : Str)
    (hf : FilterGood (filterOf call)) (he : ∀ e ∈ elemArgs call, Good e) (h : Retrieve.build caps call = .ok t) (hm : wdOf call = some mode) :
    contains caps kWithDefaults = true ∧ ∃ cap b, getItem caps kWithDefaults = .ok cap ∧
      dictGet cap.params kBasicMode = some b ∧
      lowerAscii (pyStrip mode) ∈ b :: (match dictGet cap.params kAlsoSupported with | some a => splitOn ',' a | none => []) :=
  (with_defaults_iff caps mode).mp ((RetrieveP.build_ok caps call t hf he h).2.2 mode hm)

/-- Contrapositive: a mode the server does not list (or a server without the capability) yields a local refusal, nothing built. -/
theorem unsupported_mode_builds_nothing (caps : Caps) (call : Retrieve.Call) (mode : Str)
    (hf : FilterGood (filterOf call)) (he : ∀ e ∈ elemArgs call, Good e) (hm : wdOf call = some mode) (hg : withDefaultsGate caps mode ≠ none) :
    ∃ r, Retrieve.build caps call = .error r :=
  Ok.refused (fun t hb => (RetrieveP.build_ok caps call t hf he hb).2.2 mode hm) fun _ => hg

example : refusal (Retrieve.build (mk ["urn:ietf:params:netconf:capability:with-defaults:1.0?basic-mode=explicit".toList]) (.get none (some "trim".toList)))
    = some .withDefaultsError := by decide_chars
example : refusal (Retrieve.build (mk ["urn:ietf:params:netconf:base:1.0".toList]) (.get none (some "explicit".toList)))
    = some (.missingCapability ":with-defaults".toList) := by decide_chars
example : refusal (Retrieve.build (mk ["urn:ietf:params:netconf:base:1.0".toList]) .reboot)
    = some (.missingCapability "urn:liberouter:params:netconf:capability:power-control:1.0".toList) := by decide_chars
example : refusal (Retrieve.build (mk ["urn:ietf:params:netconf:base:1.0".toList]) (.subscribe none none none none))
    = some (.missingCapability ":notification".toList) := by decide_chars
example : (builtText (Retrieve.build (mk ["urn:ietf:params:netconf:capability:with-defaults:1.0?basic-mode=explicit".toList]) (.getConfig "running".toList none (some " Explicit ".toList)))).isSome = true := by
  decide_chars
end Retrieve

end NcVerif.C09
