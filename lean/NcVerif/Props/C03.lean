/-
  C03 — each request receives exactly its own reply.
  Over ALL histories (`ops : List Op`) of Model/Session, i.e. every
  interleaving of any number of client threads, the worker and the network at
  synchronisation-point granularity, and every environment (`env`: XML library verdicts, profile).
-/
import NcVerif.Proofs.SessionA
namespace NcVerif.C03
open NcVerif NcVerif.Session NcVerif.SessionSpec NcVerif.Framing

/-- A request that holds a reply holds a reply carrying its own message-id. -/
theorem own_reply (env : Env) (ops : List Op) :
    ∀ r ∈ (run env init ops).rpcs, ∀ raw, r.reply = some raw → isReplyFor env r.id raw :=
  SessionA.own_reply env ops

/-- …and it was handed a reply at most once (ids are unique: uuid4, trusted). -/
theorem at_most_once (env : Env) (ops : List Op) (h : FreshIds ops) :
    ∀ r ∈ (run env init ops).rpcs, r.deliveries ≤ 1 :=
  SessionA.at_most_once env ops h

/-- There is one RPC object per id, and a registered id always has its object. -/
theorem table_wellformed (env : Env) (ops : List Op) :
    ((run env init ops).rpcs.map (·.id)).Nodup ∧ (run env init ops).id2rpc.Nodup ∧
    ∀ id ∈ (run env init ops).id2rpc, ∃ r ∈ (run env init ops).rpcs, r.id = id :=
  SessionA.table_wellformed env ops

/-- A reply for a registered request (in particular one whose caller already timed out: a timeout
    changes no state) is delivered to that request only: the session stays up, every other
    request, the other registrations and the notification queue are untouched. -/
theorem late_reply_harmless (env : Env) (w : World) (raw : Str) (rest : List Out) (t : Tag) (id : Nat)
    (hpc : w.pc = .dispatching (.deliver raw :: rest)) (hc : env.classify raw = .root ⟨t, some id⟩)
    (ha : replyAccepts env t = true) (hL : w.hasReplyL = true) (hid : id ∈ w.id2rpc) :
    let w' := step env w .wDispatch
    w'.connected = w.connected ∧ w'.closing = w.closing ∧ w'.notifQ = w.notifQ ∧
    (∀ r ∈ w.rpcs, r.id ≠ id → r ∈ w'.rpcs) ∧ (∀ e, w'.pc ≠ .failing e) ∧
    (∀ j, j ≠ id → (j ∈ w'.id2rpc ↔ j ∈ w.id2rpc)) :=
  SessionA.late_reply_harmless env w raw rest t id hpc hc ha hL hid

/-- Notifications and other non-reply messages (for EVERY profile, with or without the reply
    namespace check) change no request, no registration, and do not fail the session. -/
theorem non_reply_inert (env : Env) (w : World) (raw : Str) (rest : List Out) (r : Root)
    (hpc : w.pc = .dispatching (.deliver raw :: rest)) (hc : env.classify raw = .root r)
    (ht : inertTag env w.hasHello r.tag = true) (hn : r.tag = .notification → env.notifOk raw = true) :
    let w' := step env w .wDispatch
    w'.rpcs = w.rpcs ∧ w'.id2rpc = w.id2rpc ∧ w'.connected = w.connected ∧ (∀ e, w'.pc ≠ .failing e) :=
  SessionA.non_reply_inert env w raw rest r hpc hc ht hn

/-! Non-vacuity: a concrete history in which two requests get their replies in reverse order. -/
def demoEnv : Env where
  classify raw := if raw = "r1".toList then .root ⟨.rpcReplyBase, some 1⟩
                  else if raw = "r2".toList then .root ⟨.rpcReplyBase, some 2⟩
                  else if raw = "n".toList then .root ⟨.notification, none⟩ else .drop
  qualify := false
  notifOk _ := true
  helloParse _ := none
  clientCaps := []
  joins := false

def demoOps : List Op :=
  [.kAddListeners, .kSendHello [0x68], .kStart, .cNew 1, .cSend [0x61], .cNew 2, .cSend [0x62],
   .wTop false, .wSelect true,
   .wRead (.data ("r2]]>]]>n]]>]]>r1]]>]]>".toList.map fun c => UInt8.ofNat c.toNat)),
   .wDispatch, .wDispatch, .wDispatch]

example : outcome (run demoEnv init demoOps) 1 = some (.reply "r1".toList) ∧
          outcome (run demoEnv init demoOps) 2 = some (.reply "r2".toList) ∧
          (run demoEnv init demoOps).notifQ = ["n".toList] ∧ (run demoEnv init demoOps).connected = true := by
  decide +kernel
example : FreshIds demoOps := by unfold FreshIds; decide

end NcVerif.C03
