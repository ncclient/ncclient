/-
  C12 — closing a session releases it completely on every transport.
  Over Model/Session.  `env.joins` distinguishes the SSH close (joins the
  worker) from the TLS / Unix-socket close.  What epoll / paramiko do with a locally closed
  descriptor is the environment assumption spelled out in `workerOpClosed` (Spec/Session.lean):
  no more data can be read or written; `select` may or may not report the descriptor.  The
  real-socket correspondence run measures exactly that on all three transports.
-/
import NcVerif.Proofs.SessionB
namespace NcVerif.C12
open NcVerif NcVerif.Session NcVerif.SessionSpec NcVerif.Framing

/-- close() ends with the session marked disconnected (for SSH: once the worker has been joined). -/
theorem close_disconnects (env : Env) (w : World) (hc : w.closing = true)
    (hj : env.joins = false ∨ w.pc = .stopped ∨ w.pc = .notStarted) :
    (step env w .cCloseEnd).connected = false :=
  SessionB.close_disconnects env w hc hj

/-- After a local close the worker terminates within a bounded number of its own steps, whatever
    it was doing and whatever the environment still answers (no event / EOF / write error):
    at most `todoLen w + 5` steps. -/
theorem worker_terminates (env : Env) (w : World) (cs : List Bool)
    (hc : w.closing = true) (hs : w.pc ≠ .notStarted) (hn : cs.length ≥ todoLen w + 5) :
    (runClosed env w cs).pc = .stopped :=
  SessionB.worker_terminates env w cs hc hs hn

/-- Once closing is set it stays set, and the worker never blocks for ever in a state from which
    only a read event could release it: on an idle tick it leaves the loop. -/
theorem idle_tick_exits (env : Env) (w : World) (hc : w.closing = true) (hp : w.pc = .select) :
    (step env w (.wSelect false)).pc = .exiting := by
  simp [step, hc, hp]

/-- A stopped worker invokes no listener any more. -/
theorem no_callback_after_stop (env : Env) (w : World) (op : Op) (h : w.pc = .stopped) (hw : isWorkerOp op = true) :
    step env w op = w :=
  SessionB.no_callback_after_stop env w op h hw

/-- A closed session refuses further requests with a transport error. -/
theorem closed_refuses (env : Env) (w : World) (d : Bytes) (h : w.connected = false) :
    step env w (.cSend d) = w :=
  SessionA.later_refused env w d h

/-- Disconnected stays disconnected; closing stays closing (no resurrection in any history). -/
theorem closed_is_stable (env : Env) (w : World) (ops : List Op)
    (hk : ∀ o ∈ ops, o ≠ .kStart) :
    (w.closing = true → (run env w ops).closing = true) ∧
    (w.connected = false → (run env w ops).connected = false) := by
  have _ := hk  -- not needed: no step ever resets `closing` or sets `connected`
  exact SessionB.closed_is_stable env w ops

/-- Whole close path, any transport, requests possibly in flight: after close() has begun, the
    worker has run its (bounded) course and close() has finished, the session is disconnected,
    the worker stopped, and every request that was in flight has been failed. -/
theorem close_releases (env : Env) (ops : List Op) (cs : List Bool)
    (hs : (run env init ops).pc ≠ .notStarted)
    (hn : cs.length ≥ todoLen (step env (run env init ops) .cCloseBegin) + 5) :
    let w := step env (runClosed env (step env (run env init ops) .cCloseBegin) cs) .cCloseEnd
    w.connected = false ∧ w.pc = .stopped ∧ ∀ r ∈ w.rpcs, r.event = true ∨ r.lateBorn = true :=
  SessionB.close_releases env ops cs hs hn

/-! Non-vacuity: TLS/Unix close with a request in flight; the worker sees nothing more (idle tick). -/
def closeOps : List Op :=
  [.kAddListeners, .kSendHello [0x48], .kStart, .wTop true, .wWrite 100, .cNew 1, .cSend [0x61]]
example :
    let w := step C03demo.env (runClosed C03demo.env (step C03demo.env (run C03demo.env init closeOps) .cCloseBegin) [false, false, false, false, false]) .cCloseEnd
    w.connected = false ∧ w.pc = .stopped ∧ outcome w 1 = some (.raised .transport) := by
  decide +kernel

end NcVerif.C12
