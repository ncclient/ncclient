/-
  C04 — transport loss fails every outstanding request; no call outlives its timeout.
  Over all histories and environments of Model/Session.
  (Time is abstract: `Event.wait(timeout)` is a trusted primitive; `outcome` is what `_request`
  does when it stops waiting.)
-/
import NcVerif.Proofs.SessionA
import NcVerif.Props.C03
namespace NcVerif.C04
open NcVerif NcVerif.Session NcVerif.SessionSpec NcVerif.Framing

/-- Nothing pending is ever forgotten: a request whose event is not set is still registered
    (so the next reply or error can reach it). -/
theorem pending_registered (env : Env) (ops : List Op) :
    ∀ r ∈ (run env init ops).rpcs, r.event = false → r.id ∈ (run env init ops).id2rpc :=
  SessionA.pending_registered env ops

/-- Loss of the connection, at any point of the stream, puts the worker on its error path. -/
theorem eof_is_loss (env : Env) (w : World) (h : w.pc = .read) (hc : w.closing = false) :
    (step env w (.wRead .eof)).pc = .failing .sessionClose ∧
    (step env w (.wRead (.data []))).pc = .failing .sessionClose := by
  simp [step, h, hc]
theorem read_error_is_loss (env : Env) (w : World) (h : w.pc = .read) :
    (step env w (.wRead .err)).pc = .failing .transport := by
  simp [step, h]
theorem failed_write_is_loss (env : Env) (w : World) (data : Bytes) (n : Int) (h : w.pc = .writing data) (hn : n ≤ 0) :
    (step env w (.wWrite n)).pc = .failing .sessionClose ∧ (step env w .wWriteErr).pc = .failing .transport := by
  simp [step, h, hn]

/-- On the error path every registered request is failed with the error that ended the session
    (SessionCloseError for a close by the peer) — whatever else was delivered before. -/
theorem loss_error_kind (env : Env) (ops : List Op) (e : ErrK) :
    (run env init ops).pc = .failing e →
    ∀ id ∈ (run env init ops).id2rpc, outcome (step env (run env init ops) .wErrback) id = some (.raised e) :=
  SessionA.loss_error_kind env ops e

/-- Once the worker has delivered its final error, every request created before that moment has
    its event set (it returns or raises at once); only requests created afterwards can still wait. -/
theorem loss_fails_pending (env : Env) (ops : List Op) :
    (run env init ops).errbackDone = true →
    ∀ r ∈ (run env init ops).rpcs, r.event = true ∨ r.lateBorn = true :=
  SessionA.loss_fails_pending env ops

/-- The error path ends with the session marked disconnected and the worker stopped. -/
theorem error_path_closes (env : Env) (w : World) (e : ErrK) (h : w.pc = .failing e) :
    (run env w [.wErrback, .wCloseSelf]).connected = false ∧ (run env w [.wErrback, .wCloseSelf]).pc = .stopped :=
  SessionA.error_path_closes env w e h

/-- A disconnected session refuses new requests (TransportError) and queues nothing. -/
theorem later_refused (env : Env) (w : World) (d : Bytes) (h : w.connected = false) :
    step env w (.cSend d) = w :=
  SessionA.later_refused env w d h

/-- `_request`: a stored transport error wins over a reply that may also be present, so no partial
    or foreign reply is returned after a loss. -/
theorem error_wins (w : World) (r : Rpc) (e : ErrK) (hr : w.rpcs.find? (·.id = r.id) = some r)
    (he : r.error = some e) (hev : r.event = true) : outcome w r.id = some (.raised e) :=
  SessionA.error_wins w r e hr he hev

/-- Every call ends: a synchronous request returns its reply, raises, or times out. -/
theorem bounded_wait (w : World) (r : Rpc) (hr : w.rpcs.find? (·.id = r.id) = some r) :
    ∃ o, outcome w r.id = some o := by
  simp [outcome, hr]

/-! Non-vacuity: EOF with two requests outstanding. -/
def lossOps : List Op :=
  [.kAddListeners, .kSendHello [0x68], .kStart, .cNew 1, .cSend [0x61], .cNew 2, .cSend [0x62],
   .wTop false, .wSelect true, .wRead .eof, .wErrback, .wCloseSelf]
example : outcome (run C03.demoEnv init lossOps) 1 = some (.raised .sessionClose) ∧
          outcome (run C03.demoEnv init lossOps) 2 = some (.raised .sessionClose) ∧
          (run C03.demoEnv init lossOps).connected = false ∧ (run C03.demoEnv init lossOps).pc = .stopped := by
  decide +kernel

end NcVerif.C04
